import PymocaVerif.Lemmas.Cli
/-!
# C26 — the compiler CLI's exit status counts exactly the errors

Property theorems over the model `Cli.main` of `tools/compiler.py` (`Model/Cli.lean`), for
invocations with any number of paths, files, options and requested models.

* `Variant.fixed` is the code as it is (commit c313463 = `proposed_fixes/C26-1.diff`); for it
  the property holds for every invocation (`exit_counts`, `per_model_independent`,
  `sympy_written`, `argparse_is_2`).
* `Variant.old` is the code before that commit; `exit_counts_old_partial` proves the property
  outside three input classes, and `old_*` characterise that code on exactly those classes
  (the findings C26-F1 … C26-F4, now fixed): each change of the commit is necessary.
-/
namespace PymocaVerif.Cli

/-- Argument errors — argparse's own, and `-t` without `-m` — leave with status 2 whatever
    else is wrong with the invocation, in both variants. -/
theorem argparse_is_2 (v : Variant) (inv : Inv)
    (h : inv.argparse = .error ∨ (inv.argparse = .ok ∧ inv.target ≠ .none ∧ inv.models = [])) :
    main v inv = .sysexit 2 := by
  unfold main
  rcases h with h | ⟨h, ht, hm⟩
  · rw [h]
  · rw [h, hm]
    exact if_pos ⟨ht, rfl⟩

example : (⟨.ok, .sympy, false, [⟨false, []⟩], [false], []⟩ : Inv).argparse = .ok ∧
    (⟨.ok, .sympy, false, [⟨false, []⟩], [false], []⟩ : Inv).target ≠ .none := by decide +kernel

/-- **Exit status = usage errors + files with parse errors + failing models** (the code as it
    is), for every invocation argparse accepts; in particular 0 on full success. -/
theorem exit_counts (inv : Inv) (hap : inv.argparse = .ok)
    (hm : ¬ (inv.target ≠ .none ∧ inv.models = [])) :
    ∃ w, main .fixed inv = .ret (usageCount inv + parseErrorFiles inv + failingModels inv) w :=
  exit_counts_of hap hm (fun _ => .inl rfl) (fun _ => ⟨.inl rfl, fun _ _ => rfl⟩)
    (fun _ _ _ => rfl)

-- non-vacuity: an accepted invocation with a failing model
example : main .fixed ⟨.ok, .none, true, [⟨true, [⟨"A", 0, .ok⟩]⟩], [],
    [⟨"A", true, .ok, []⟩, ⟨"Nope", false, .ok, []⟩]⟩ = .ret 1 [] := by decide +kernel

/-- `-t sympy`: the files written are exactly those of the models that succeed, in request order. -/
theorem sympy_written (inv : Inv) (hap : inv.argparse = .ok) (ht : inv.target = .sympy)
    (hms : inv.models ≠ []) (hu : usageCount inv = 0) (hp : parseErrorFiles inv = 0) :
    main .fixed inv = .ret (failingModels inv)
      ((inv.models.filter (fun m => m.sympy == .ok)).map (·.name)) := by
  rw [main_models hap (fun h => hms h.2) hu (ht ▸ nofun) hp (.inl rfl), if_pos ht,
    sympyLoop_eq 0 [] (.inl rfl), Nat.zero_add, failingModels_eq hu hp, ht]
  rfl

/-- **Per-model independence** (the code as it is): when nothing stops the tool
    before the model loop, the status of an invocation requesting `ms` is the sum of the
    statuses of the same invocation requesting each model alone — a model succeeds or fails
    the same way whatever else is requested. -/
theorem per_model_independent (inv : Inv) (hap : inv.argparse = .ok)
    (hu : usageCount inv = 0) (hp : parseErrorFiles inv = 0) (ms : List ModelReq) (hms : ms ≠ []) :
    (main .fixed (inv.withModels ms)).status =
      some ((ms.map (fun m => ((main .fixed (inv.withModels [m])).status).getD 0)).sum) := by
  have key : ∀ l : List ModelReq, l ≠ [] →
      (main .fixed (inv.withModels l)).status
        = some ((l.filter (modelFails inv.target (allFiles inv))).length) := by
    intro l hl
    obtain ⟨w, hw⟩ := exit_counts (inv.withModels l) hap (fun h => hl h.2)
    -- `withModels` changes neither the usage errors nor the listed files
    have hu' : usageCount (inv.withModels l) = 0 := hu
    have hp' : parseErrorFiles (inv.withModels l) = 0 := hp
    rw [hw, hu', hp', failingModels_eq hu' hp', Nat.zero_add]
    rfl
  rw [key ms hms, count_eq_sum]
  refine congrArg some (congrArg List.sum (List.map_congr_left fun m _ => ?_))
  rw [key [m] (by simp)]
  cases h : modelFails inv.target (allFiles inv) m <;> simp [h]

example : usageCount ⟨.ok, .none, true, [⟨true, [⟨"A", 0, .ok⟩]⟩], [], []⟩ = 0 ∧
    parseErrorFiles ⟨.ok, .none, true, [⟨true, [⟨"A", 0, .ok⟩]⟩], [], []⟩ = 0 := by decide +kernel

/-- **The code before c313463**, outside the input classes of the findings it fixed: no listed file
    makes `parse_file` raise (C26-F4), `-t sympy` only with models whose translation succeeds
    (C26-F1, C26-F2), `-t casadi` only with models that have at least one listed file of that
    name (C26-F3).  *Missing for the full property:* exactly these three classes — see
    `old_sympy_exception_escapes`, `old_sympy_failures_not_counted`,
    `old_casadi_counts`, `old_undecodable_escapes`. -/
theorem exit_counts_old_partial (inv : Inv) (hap : inv.argparse = .ok)
    (hm : ¬ (inv.target ≠ .none ∧ inv.models = []))
    (h4 : ∀ f ∈ allFiles inv, f.parse ≠ .raise)
    (h12 : inv.target = .sympy → ∀ m ∈ inv.models, m.sympy = .ok)
    (h3 : inv.target = .casadi → ∀ m ∈ inv.models,
            (allFiles inv).filter (fun f => f.stem = m.name) ≠ []) :
    ∃ w, main .old inv = .ret (usageCount inv + parseErrorFiles inv + failingModels inv) w := by
  refine exit_counts_of hap hm (fun _ => .inr h4) (fun ht => ⟨.inr fun m hmm => ?_, fun m hmm => ?_⟩)
    (fun ht m hmm => oldCasadiCounts_eq m _ (h3 ht m hmm))
  · rw [h12 ht m hmm]
    nofun
  · -- a translation that succeeds is counted neither by the old loop nor by the specification
    show false = (m.sympy != .ok)
    rw [h12 ht m hmm]
    rfl

-- non-vacuity: `-t casadi` with an ambiguous model and a failing transfer satisfies the hypotheses
example : main .old ⟨.ok, .casadi, true, [⟨true, [⟨"A", 0, .ok⟩, ⟨"A", 1, .ok⟩, ⟨"B", 1, .ok⟩]⟩], [],
    [⟨"A", true, .ok, [(0, true), (1, true)]⟩, ⟨"B", true, .ok, [(1, false)]⟩]⟩ = .ret 2 [] := by decide +kernel

/-- C26-F1 on the model: before the fix, with `-t sympy` a model whose translation raises makes the
    exception escape `main` (nothing is counted, later models are not attempted). -/
theorem old_sympy_exception_escapes (inv : Inv) (hap : inv.argparse = .ok)
    (ht : inv.target = .sympy) (hu : usageCount inv = 0) (hp : parseErrorFiles inv = 0)
    (h4 : ∀ f ∈ allFiles inv, f.parse ≠ .raise)
    (hr : ∃ m ∈ inv.models, m.sympy = .raise) : main .old inv = .raised := by
  have hm : ¬ (inv.target ≠ .none ∧ inv.models = []) := fun h => by simp [h.2] at hr
  rw [main_models hap hm hu (ht ▸ nofun) hp (.inr h4), if_pos ht, sympyLoop_old_raise 0 [] hr]

/-- C26-F2 on the model: before the fix, with `-t sympy` and no raising model the status is 0 however
    many translations report failure. -/
theorem old_sympy_failures_not_counted (inv : Inv) (hap : inv.argparse = .ok)
    (ht : inv.target = .sympy) (hms : inv.models ≠ []) (hu : usageCount inv = 0)
    (hp : parseErrorFiles inv = 0) (h4 : ∀ f ∈ allFiles inv, f.parse ≠ .raise)
    (hr : ∀ m ∈ inv.models, m.sympy ≠ .raise) :
    main .old inv = .ret 0 ((inv.models.filter (fun m => m.sympy == .ok)).map (·.name)) := by
  rw [main_models hap (fun h => hms h.2) hu (ht ▸ nofun) hp (.inr h4), if_pos ht,
    sympyLoop_eq 0 [] (.inr hr)]
  simp [sympyCounts]

/-- C26-F3 on the model: before the fix, `-t casadi` counts ambiguous models and failing transfers, but
    not the models for which no listed file exists. -/
theorem old_casadi_counts (inv : Inv) (hap : inv.argparse = .ok) (ht : inv.target = .casadi)
    (hms : inv.models ≠ []) (hu : usageCount inv = 0) :
    main .old inv = .ret ((inv.models.filter
      (fun m => oldCasadiCounts m ((allFiles inv).filter (fun f => f.stem = m.name)))).length) [] :=
  main_casadi hap (fun h => hms h.2) hu ht

/-- C26-F4 on the model: before the fix, a listed file on which `parse_file` raises (undecodable
    bytes) makes the exception escape `main` unless `-t casadi` is given. -/
theorem old_undecodable_escapes (inv : Inv) (hap : inv.argparse = .ok)
    (hm : ¬ (inv.target ≠ .none ∧ inv.models = [])) (ht : inv.target ≠ .casadi)
    (hu : usageErrors inv = 0) (hr : ∃ f ∈ allFiles inv, f.parse = .raise) :
    main .old inv = .raised := by
  have hf : (allFiles inv).isEmpty = false := by
    obtain ⟨f, hf, _⟩ := hr
    exact List.isEmpty_eq_false_iff.2 (List.ne_nil_of_mem hf)
  rw [main_parse hap hm (usageCount_eq_zero.2 ⟨hu, hf⟩) ht, parseAll_old_raise hr]

-- the four classes are inhabited, and there the old status differs from the count
example : main .old ⟨.ok, .sympy, true, [⟨true, [⟨"A", 0, .ok⟩]⟩], [], [⟨"Nope", false, .raise, []⟩]⟩ = .raised := by decide +kernel
example : main .old ⟨.ok, .sympy, true, [⟨true, [⟨"A", 0, .ok⟩]⟩], [], [⟨"A", true, .retFalse, []⟩]⟩ = .ret 0 [] ∧
    main .fixed ⟨.ok, .sympy, true, [⟨true, [⟨"A", 0, .ok⟩]⟩], [], [⟨"A", true, .retFalse, []⟩]⟩ = .ret 1 [] := by decide +kernel
example : main .old ⟨.ok, .casadi, true, [⟨true, [⟨"A", 0, .ok⟩]⟩], [], [⟨"Nope", false, .ok, []⟩]⟩ = .ret 0 [] ∧
    main .fixed ⟨.ok, .casadi, true, [⟨true, [⟨"A", 0, .ok⟩]⟩], [], [⟨"Nope", false, .ok, []⟩]⟩ = .ret 1 [] := by decide +kernel
example : main .old ⟨.ok, .none, true, [⟨true, [⟨"L", 0, .raise⟩]⟩], [], []⟩ = .raised ∧
    main .fixed ⟨.ok, .none, true, [⟨true, [⟨"L", 0, .raise⟩]⟩], [], []⟩ = .ret 1 [] := by decide +kernel

end PymocaVerif.Cli
