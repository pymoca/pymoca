import PymocaVerif.Lemmas.ExprGrammar
import PymocaVerif.Lemmas.ExprLiterals
import PymocaVerif.Lemmas.ExprSpec
import PymocaVerif.Lemmas.ExprSpecSound
import PymocaVerif.Generated.ExprTable
/-!
# C03 — parsed expressions follow Modelica precedence and literal values

Theorems about `PymocaVerif.Model.ExprGrammar`: the table-driven model of the generated parser's rule
`expr` (ANTLR's precedence climbing), the listener's tree building, the Modelica-grammar printer; and about
`PymocaVerif.Model.ExprSpec`, the specification's own grammar as a recursive-descent reference reader.
`Generated/ExprTable.lean` is rewritten from `/repo` on every run; `table_ok`/`atn_ok` tie it to the table
the theorems are about.  All statements are for trees of any depth and any redundant parenthesisation.
-/
namespace PymocaVerif.Props.C03
open PymocaVerif.ExprGrammar PymocaVerif.Generated.ExprTable

/-! ## The tie to the generated parser -/

/-- The table extracted from the Python source of `ModelicaParser.expr` (token sets, `precpred` levels, levels of
the recursive calls) is the table of the theorems below. -/
theorem table_ok : exprTable = modelicaData := by decide

example : exprTable.length = 21 := by decide

/-- The table extracted from the deserialised ATN (the precedence predicates and rule-call precedences that
`adaptivePredict` evaluates) is the same table. -/
theorem atn_ok : atnTable = modelicaData := by decide

example : atnTable.length = 21 := by decide

/-- The function form of the extracted table. -/
theorem generated_tbl : Tbl.ofData exprTable = modelicaTbl := by
  unfold Tbl.ofData modelicaTbl
  congr 1
  · funext o
    cases o <;> decide
  · funext o
    cases o <;> decide
  · funext q
    cases q <;> decide

example : (Tbl.ofData exprTable).lvl .mul = 7 ∧ (Tbl.ofData exprTable).rl .mul = 8 ∧
    (Tbl.ofData exprTable).plvl .not = 4 := by decide

/-- The side conditions of the round trip hold for pymoca's table: every operator is left associative (right
operand one level up), levels are positive, no binary level equals a prefix operand level. -/
theorem table_conditions : TblOK (Tbl.ofData exprTable) := by
  rw [generated_tbl]
  exact modelicaTbl_ok

example : TblOK modelicaTbl := modelicaTbl_ok

/-! ## Round trip -/

/-- A result obtained with some fuel is the result with every larger fuel (so the fuel the driver uses can only
agree with the witnesses of the theorems below). -/
theorem parse_fuel_mono (T : Tbl) {f f' : Nat} {ts : List Tok} {e : E}
    (h : parseTop T f ts = some e) (hle : f ≤ f') : parseTop T f' ts = some e :=
  monoTop T h hle

example : parseTop modelicaTbl 6 [Tok.atom (.ref "x"), Tok.op .star, Tok.atom (.num "2")]
    = some (.bin .mul (.atom (.ref "x")) (.atom (.num "2"))) := by rfl

/-- **Round trip for an arbitrary precedence table** satisfying `TblOK`: the minimal-parenthesis printer for the
table (every `paren` node verbatim) is inverted by the table-driven parser, up to the `paren` nodes, for every
tree. -/
theorem parse_print (T : Tbl) (hT : TblOK T) (e : E) :
    ∃ fuel, ∀ f, fuel ≤ f → parseTop T f (pr T 0 e) = some (strip e) :=
  parse_pr T hT e

example : parseTop modelicaTbl 12
    (pr modelicaTbl 0 (.bin .sub (.atom (.ref "a")) (.paren (.bin .sub (.atom (.ref "b")) (.atom (.ref "c"))))))
    = some (.bin .sub (.atom (.ref "a")) (.bin .sub (.atom (.ref "b")) (.atom (.ref "c")))) := by rfl

/-- **Round trip for Modelica text with pymoca's table**: whatever tree `e` (any depth, any redundant
parentheses), parsing the text the Modelica grammar prints for it (`mprint`: minimal parentheses by the
specification's grammar, `paren` nodes verbatim) with the extracted table yields `expected e`. -/
theorem parse_mprint (e : E) :
    ∃ fuel, ∀ f, fuel ≤ f → parseTop (Tbl.ofData exprTable) f (mprint e) = some (expected e) := by
  rw [generated_tbl]
  exact parseTop_mprint e

/-- `- a * b ^ 2 < c and not p`, with one redundant pair of parentheses -/
def sample : E :=
  .bin .and
    (.bin .lt (.pre .neg (.bin .mul (.atom (.ref "a")) (.paren (.pow .pow (.atom (.ref "b")) (.atom (.num "2"))))))
      (.atom (.ref "c")))
    (.pre .not (.atom (.ref "p")))

example : parseTop (Tbl.ofData exprTable) 40 (mprint sample) = some (expected sample) := by rfl
example : expected sample =
    .bin .and
      (.bin .lt (.bin .mul (.pre .neg (.atom (.ref "a"))) (.pow .pow (.atom (.ref "b")) (.atom (.num "2"))))
        (.atom (.ref "c")))
      (.pre .not (.atom (.ref "p"))) := by rfl

/-! ## Values -/

/-- `expected e` — the tree pymoca builds — has the value of the source tree in every interpretation in which
a sign moves out of a product or quotient (`(-a)*b = -(a*b)`, `(-a)/b = -(a/b)`; true in every field). -/
theorem eval_expected {V : Type} (I : Interp V) (hI : I.SignLaw) (e : E) :
    eval I (expected e) = eval I e := by
  unfold expected
  rw [eval_strip, eval_conv I hI]

/-- **The property**: for every expression tree, however parenthesised, the tree parsed from its Modelica text
evaluates to the value Modelica's precedence and associativity give that text (the value of the source tree). -/
theorem value_preserved {V : Type} (I : Interp V) (hI : I.SignLaw) (e : E) :
    ∃ fuel, ∀ f, fuel ≤ f → (parseTop (Tbl.ofData exprTable) f (mprint e)).map (eval I) = some (eval I e) := by
  obtain ⟨f0, h⟩ := parse_mprint e
  refine ⟨f0, fun f hf => ?_⟩
  rw [h f hf, Option.map_some, eval_expected I hI]

/-- **The yardstick is the specification's grammar itself**: the recursive-descent reader of B.2.7
(`logical_expression` … `primary`, one case per nonterminal) reads the Modelica print of `e` as `e` (up to `paren`
nodes).  So "the source tree" in the theorems above *is* what Modelica's precedence and associativity make of the
text, not a convention of the printer. -/
theorem spec_reads_source (e : E) : ∃ fuel, ∀ f, fuel ≤ f → specParse f (mprint e) = some (strip e) :=
  spec_reads_mprint e

example : specParse 60 (mprint sample) = some (strip sample) := by rfl

/-- **The property, against the specification's reading of the text**: on the Modelica text of any expression
tree, however parenthesised, pymoca's parser (extracted table) and the specification's grammar both succeed and
the two trees have the same value. -/
theorem agrees_with_specification {V : Type} (I : Interp V) (hI : I.SignLaw) (e : E) :
    ∃ fuel, ∀ f, fuel ≤ f →
      ∃ t s, parseTop (Tbl.ofData exprTable) f (mprint e) = some t ∧ specParse f (mprint e) = some s ∧
        eval I t = eval I s := by
  obtain ⟨f1, h1⟩ := parse_mprint e
  obtain ⟨f2, h2⟩ := spec_reads_source e
  refine ⟨max f1 f2, fun f hf => ⟨expected e, strip e, h1 f ?_, h2 f ?_, ?_⟩⟩
  · exact Nat.le_trans (Nat.le_max_left _ _) hf
  · exact Nat.le_trans (Nat.le_max_right _ _) hf
  · rw [eval_expected I hI, eval_strip]

/-- **The property for every text of the specification's expression grammar** (no printer in the statement):
whenever the specification's grammar derives a token string `ts` and reads it as `s`, pymoca's parser (extracted
table) accepts `ts` too and its tree has the value of `s`. -/
theorem every_text {V : Type} (I : Interp V) (hI : I.SignLaw) (ts : List Tok) (f : Nat) (s : E)
    (h : specParse f ts = some s) :
    ∃ fuel, ∀ f', fuel ≤ f' → ∃ t, parseTop (Tbl.ofData exprTable) f' ts = some t ∧ eval I t = eval I s := by
  obtain ⟨c, hc, hts⟩ := spec_text_is_print h
  obtain ⟨f0, h0⟩ := parse_mprint c
  refine ⟨f0, fun f' hf' => ⟨expected c, ?_, ?_⟩⟩
  · rw [← hts]
    exact h0 f' hf'
  · rw [eval_expected I hI, ← hc, eval_strip]

/-- `- a / b * c`: the specification reads `-((a / b) * c)` -/
example : specParse 30 [.op .minus, .atom (.ref "a"), .op .slash, .atom (.ref "b"), .op .star, .atom (.ref "c")]
    = some (.pre .neg (.bin .mul (.bin .div (.atom (.ref "a")) (.atom (.ref "b"))) (.atom (.ref "c")))) := by rfl

/-- Parenthesisation is irrelevant: two trees that differ only in redundant parentheses give trees of the same
value. -/
theorem parenthesisation_irrelevant {V : Type} (I : Interp V) (hI : I.SignLaw) (e e' : E)
    (h : strip e = strip e') : eval I (expected e) = eval I (expected e') := by
  rw [eval_expected I hI, eval_expected I hI, ← eval_strip I e, ← eval_strip I e', h]

example : strip sample = strip (.paren (.paren sample)) := by rfl

/-- The tree the listener builds has no `paren` node (a parenthesised single expression is collapsed). -/
theorem expected_paren_free (e : E) : noParen (expected e) = true :=
  noParen_strip _

example : noParen sample = false := by rfl

/-- No two different readings share a text: Modelica texts with the same tokens give the same tree. -/
theorem print_unambiguous (e e' : E) (h : mprint e = mprint e') : expected e = expected e' := by
  unfold mprint at h
  rw [mpr_eq_pr e 0 0 Compat.zero, mpr_eq_pr e' 0 0 Compat.zero] at h
  exact pr_injective modelicaTbl modelicaTbl_ok _ _ h

example : mprint sample = mprint sample := rfl

/-- the rationals with the usual operations (Booleans as 0/1; anything uninterpreted as 0) -/
def ratInterp (ρ : Atom → Rat) : Interp Rat where
  atom := ρ
  bin
    | .mul, a, b | .emul, a, b => a * b
    | .div, a, b | .ediv, a, b => a / b
    | .add, a, b | .eadd, a, b => a + b
    | .sub, a, b | .esub, a, b => a - b
    | .lt, a, b => if a < b then 1 else 0
    | .le, a, b => if a ≤ b then 1 else 0
    | .gt, a, b => if b < a then 1 else 0
    | .ge, a, b => if b ≤ a then 1 else 0
    | .eq, a, b => if a = b then 1 else 0
    | .ne, a, b => if a = b then 0 else 1
    | .and, a, b => a * b
    | .or, a, b => a + b - a * b
  pre
    | .pos, a => a
    | .neg, a => -a
    | .not, a => 1 - a
  pow _ a b := if b = 2 then a * a else 0
  ite c t e := if c = 0 then e else t
  call _ _ := 0

theorem ratInterp_signLaw (ρ : Atom → Rat) : (ratInterp ρ).SignLaw := by
  intro s o a b hs ho
  have hmul : -a * b = -(a * b) := Rat.neg_mul a b
  have hdiv : -a / b = -(a / b) := by rw [Rat.div_def, Rat.div_def, Rat.neg_mul]
  cases s with
  | not => exact absurd rfl hs
  | pos => cases o <;> cases ho <;> rfl
  | neg => cases o <;> cases ho <;> first | exact hmul | exact hdiv

example (ρ : Atom → Rat) : eval (ratInterp ρ) (expected sample) = eval (ratInterp ρ) sample :=
  eval_expected _ (ratInterp_signLaw ρ) sample

/-! ## The clauses of the property, as corollaries on token strings (for arbitrary atoms) -/

section corollaries
variable (a b c : Atom)

/-- `a o b o' c` with two operators of the multiplication level is `(a o b) o' c` -/
theorem mul_left_assoc (o o' : BOp) (ho : o.isMul = true) (ho' : o'.isMul = true) :
    ∃ fuel, parseTop modelicaTbl fuel [.atom a, .op o.sym, .atom b, .op o'.sym, .atom c]
      = some (.bin o' (.bin o (.atom a) (.atom b)) (.atom c)) :=
  parseTop_of_mprint (by simp [mprint, mpr, BOp.mlv_of_isMul ho, BOp.mlv_of_isMul ho'])
    (by simp [expected, conv, strip, BOp.mlv_of_isMul ho, BOp.mlv_of_isMul ho'])

example : parseTop modelicaTbl 20 [.atom (.ref "a"), .op .slash, .atom (.ref "b"), .op .star, .atom (.ref "c")]
    = some (.bin .mul (.bin .div (.atom (.ref "a")) (.atom (.ref "b"))) (.atom (.ref "c"))) := by rfl

/-- the addition level (`+ - .+ .-`) is left associative: `a - b + c` is `(a - b) + c` -/
theorem add_left_assoc (o o' : BOp) (ho : o.mlv.1 = 5) (ho' : o'.mlv.1 = 5) :
    ∃ fuel, parseTop modelicaTbl fuel [.atom a, .op o.sym, .atom b, .op o'.sym, .atom c]
      = some (.bin o' (.bin o (.atom a) (.atom b)) (.atom c)) :=
  parseTop_of_mprint (by simp [mprint, mpr, BOp.mlv_of_add ho, BOp.mlv_of_add ho'])
    (by simp [expected, conv, strip, BOp.mlv_of_add ho, BOp.mlv_of_add ho'])

example : parseTop modelicaTbl 20 [.atom (.ref "a"), .op .minus, .atom (.ref "b"), .op .minus, .atom (.ref "c")]
    = some (.bin .sub (.bin .sub (.atom (.ref "a")) (.atom (.ref "b"))) (.atom (.ref "c"))) := by rfl

/-- multiplication binds tighter than an addition to its left: `a + b * c` is `a + (b * c)` -/
theorem mul_over_add (o o' : BOp) (ho : o.mlv.1 = 5) (ho' : o'.isMul = true) :
    ∃ fuel, parseTop modelicaTbl fuel [.atom a, .op o.sym, .atom b, .op o'.sym, .atom c]
      = some (.bin o (.atom a) (.bin o' (.atom b) (.atom c))) :=
  parseTop_of_mprint (by simp [mprint, mpr, BOp.mlv_of_add ho, BOp.mlv_of_isMul ho'])
    (by simp [expected, conv, strip, BOp.mlv_of_add ho, BOp.mlv_of_isMul ho'])

example : parseTop modelicaTbl 20 [.atom (.ref "a"), .op .plus, .atom (.ref "b"), .op .star, .atom (.ref "c")]
    = some (.bin .add (.atom (.ref "a")) (.bin .mul (.atom (.ref "b")) (.atom (.ref "c")))) := by rfl

/-- `^` binds tighter than unary minus: `- a ^ b` is `-(a ^ b)` -/
theorem pow_over_neg (w : WOp) :
    ∃ fuel, parseTop modelicaTbl fuel [.op .minus, .atom a, .op w.sym, .atom b]
      = some (.pre .neg (.pow w (.atom a) (.atom b))) :=
  parseTop_of_mprint (by simp [mprint, mpr, POp.mlv, POp.sym]) (by simp [expected, conv, strip, pushSign])

example : parseTop modelicaTbl 20 [.op .minus, .atom (.num "2"), .op .caret, .atom (.num "2")]
    = some (.pre .neg (.pow .pow (.atom (.num "2")) (.atom (.num "2")))) := by rfl

/-- `- a * b` is built as `(-a) * b` (Modelica reads `-(a * b)`: same value by `eval_expected`) -/
theorem neg_product (o : BOp) (ho : o.isMul = true) :
    (∃ fuel, parseTop modelicaTbl fuel [.op .minus, .atom a, .op o.sym, .atom b]
      = some (.bin o (.pre .neg (.atom a)) (.atom b))) ∧
    (∀ {V : Type} (I : Interp V), I.SignLaw →
      eval I (.bin o (.pre .neg (.atom a)) (.atom b)) = eval I (.pre .neg (.bin o (.atom a) (.atom b)))) := by
  constructor
  · have := (parseTop_mprint (.pre .neg (.bin o (.atom a) (.atom b)))).exists
    simpa [mprint, mpr, expected, conv, strip, POp.mlv, BOp.mlv_of_isMul ho, pushSign, ho, POp.sym] using this
  · intro V I hI
    simp [eval, hI .neg o _ _ (by simp) ho]

example : parseTop modelicaTbl 20 [.op .minus, .atom (.ref "a"), .op .slash, .atom (.ref "b")]
    = some (.bin .div (.pre .neg (.atom (.ref "a"))) (.atom (.ref "b"))) := by rfl

/-- arithmetic binds tighter than relations, relations tighter than `not`: `not a + b < c` is `not ((a + b) < c)` -/
theorem rel_over_not (o r : BOp) (ho : o.mlv.1 = 5) (hr : r.mlv.1 = 4) :
    ∃ fuel, parseTop modelicaTbl fuel [.op .not, .atom a, .op o.sym, .atom b, .op r.sym, .atom c]
      = some (.pre .not (.bin r (.bin o (.atom a) (.atom b)) (.atom c))) :=
  parseTop_of_mprint (by simp [mprint, mpr, POp.mlv, BOp.mlv_of_add ho, BOp.mlv_of_rel hr, POp.sym])
    (by simp [expected, conv, strip, BOp.mlv_of_add ho, BOp.mlv_of_rel hr])

example : parseTop modelicaTbl 20 [.op .not, .atom (.ref "a"), .op .lt, .atom (.ref "b")]
    = some (.pre .not (.bin .lt (.atom (.ref "a")) (.atom (.ref "b")))) := by rfl

/-- `not` binds tighter than `and`: `not a and b` is `(not a) and b` -/
theorem not_over_and :
    ∃ fuel, parseTop modelicaTbl fuel [.op .not, .atom a, .op .and, .atom b]
      = some (.bin .and (.pre .not (.atom a)) (.atom b)) :=
  parseTop_of_mprint (by simp [mprint, mpr, POp.mlv, BOp.mlv, POp.sym, BOp.sym])
    (by simp [expected, conv, strip, BOp.mlv])

example : parseTop modelicaTbl 20 [.op .not, .atom (.ref "p"), .op .and, .atom (.ref "q")]
    = some (.bin .and (.pre .not (.atom (.ref "p"))) (.atom (.ref "q"))) := by rfl

/-- `and` binds tighter than `or`, on either side: `a or b and c` is `a or (b and c)`; `a and b or c` is `(a and b) or c` -/
theorem and_over_or :
    (∃ fuel, parseTop modelicaTbl fuel [.atom a, .op .or, .atom b, .op .and, .atom c]
      = some (.bin .or (.atom a) (.bin .and (.atom b) (.atom c)))) ∧
    (∃ fuel, parseTop modelicaTbl fuel [.atom a, .op .and, .atom b, .op .or, .atom c]
      = some (.bin .or (.bin .and (.atom a) (.atom b)) (.atom c))) :=
  ⟨parseTop_of_mprint (by simp [mprint, mpr, BOp.mlv, BOp.sym]) (by simp [expected, conv, strip, BOp.mlv]),
    parseTop_of_mprint (by simp [mprint, mpr, BOp.mlv, BOp.sym]) (by simp [expected, conv, strip, BOp.mlv])⟩

example : parseTop modelicaTbl 20 [.atom (.ref "a"), .op .or, .atom (.ref "b"), .op .and, .atom (.ref "c")]
    = some (.bin .or (.atom (.ref "a")) (.bin .and (.atom (.ref "b")) (.atom (.ref "c")))) := by rfl

end corollaries

/-! ## Literals -/

/-- An unsigned integer literal (the decimal digits of any natural number) is read as that integer, with
integer type (`int()` accepts it). -/
theorem int_literal_exact (n : Nat) :
    litValue (String.ofList (Nat.toDigits 10 n)) = some { isInt := true, value := (n : Rat) } := by
  have hd := toDigits_isDigit n
  simp only [litValue, String.toList_ofList]
  rw [splitAt1_none _ _ (digits_no_e _ hd)]
  simp only
  rw [splitAt1_none _ _ (digits_no_dot _ hd)]
  simp [digitsVal_toDigits, fracOf, expoOf, pow10_zero, Rat.div_def, Rat.zero_mul, Rat.add_zero]

example : litValue (String.ofList (Nat.toDigits 10 2026)) = some { isInt := true, value := 2026 } :=
  int_literal_exact 2026

/-- A real literal `i.d₁…d_k e±x`: digits of `i`, a fraction part of `k` digits with value `fv`
(zero padded), an exponent; read as exactly `(i + fv / 10^k) · 10^x`, with real type. -/
theorem real_literal_exact (i k fv : Nat) (hfv : fv < 10 ^ k) (neg : Bool) (x : Nat) :
    litValue (String.ofList (Nat.toDigits 10 i ++ '.' :: padDigits k fv ++ 'e' :: (if neg then ['-'] else []) ++
        Nat.toDigits 10 x))
      = some { isInt := false,
               value := ((i : Rat) + (fv : Rat) / ((10 ^ k : Nat) : Rat)) * pow10 (if neg then - (x : Int) else x) } := by
  have hD := toDigits_isDigit i
  have hP := padDigits_isDigit k fv
  simp only [litValue, String.toList_ofList]
  -- the text as `(i ++ '.' :: fraction) ++ 'e' :: (sign ++ x)`: split at the `e`, then the mantissa at the `.`
  rw [List.append_assoc, List.cons_append, splitAt1_append (d := 'e') (hd := by decide)]
  · simp only
    rw [splitAt1_append _ _ '.' _ (digits_no_dot _ hD) (by decide)]
    simp only [digitsVal_toDigits, frac_val k fv hfv, expo_val neg x]
    simp
  · intro c hc
    simp only [List.mem_append, List.mem_cons] at hc
    rcases hc with hc | hc | hc
    · exact digits_no_e _ hD c hc
    · subst hc
      decide
    · exact digits_no_e _ hP c hc

/-- `12.50e-1` -/
example : litValue (String.ofList (Nat.toDigits 10 12 ++ '.' :: padDigits 2 50 ++ 'e' :: ['-'] ++ Nat.toDigits 10 1))
    = some { isInt := false, value := ((12 : Nat) + (50 : Nat) / ((10 ^ 2 : Nat) : Rat)) * pow10 (-(1 : Nat)) } :=
  real_literal_exact 12 2 50 (by decide) true 1

/-- A string literal is read as exactly the text between its delimiters, whatever that text is — escape
sequences stay verbatim, in particular an escaped quote at the very end (`"say \\"hi\\""`) is kept. -/
theorem string_literal_exact (cs : List Char) :
    strLitValue (String.ofList ('"' :: (cs ++ ['"']))) = some (String.ofList cs) := by
  simp [strLitValue, String.toList_ofList]

/-- `"\\""`: the value is the two characters `\\` and `"` -/
example : strLitValue (String.ofList ['"', '\\', '"', '"']) = some (String.ofList ['\\', '"']) :=
  string_literal_exact ['\\', '"']

end PymocaVerif.Props.C03
