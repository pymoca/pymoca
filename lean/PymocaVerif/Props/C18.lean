import PymocaVerif.Lemmas.VecExpandResidual
/-!
# C18 — vector expansion is a faithful renaming to scalars

Property theorems about `PymocaVerif.Model.VecExpand` (the model of `Model._expand_vectors`).
-/
namespace PymocaVerif.VecExpand

/-- `np.ndindex` order: the tuples of `ndindex ds` are exactly the in-range tuples, there are
    `prod ds` of them and tuple `idx` sits at its row-major rank (so each occurs once). -/
theorem ndindex_rowmajor (ds idx : List Nat) :
    (ndindex ds).length = prod ds ∧
    (InRange ds idx → (ndindex ds)[ravel ds idx]? = some idx) ∧
    (idx ∈ ndindex ds ↔ InRange ds idx) :=
  ⟨ndindex_length ds, ndindex_getElem?_ravel, mem_ndindex⟩

example : InRange [2, 3] [1, 2] ∧ ravel [2, 3] [1, 2] = 5 ∧ ndindex [2, 2] = [[0, 0], [0, 1], [1, 0], [1, 1]] :=
  ⟨by simp [InRange], by decide +kernel, by decide +kernel⟩

/-- Which variables are expanded: exactly those with an array level anywhere in the nested name
    (`set(_modelica_shape) != {(None,)}`), whatever the sizes — a scalar inside a component array
    of size one (`Pump one[1]`, shape `((1,), (None,))`) is expanded and gets the single name
    `one[1].y`; only names all of whose levels are scalar are kept. -/
theorem expanded_iff_array_level (ms : MShape) (hne : ms ≠ []) :
    (needsExpand ms = true ↔ ∃ l ∈ ms, l ≠ none) ∧
    (∀ n : Nat, needsExpand (some [n] :: ms) = true ∧ needsExpand (ms ++ [some [n]]) = true) := by
  constructor
  · cases ms with
    | nil => exact absurd rfl hne
    | cons l ms =>
      simp only [needsExpand, List.isEmpty_cons, Bool.false_or, List.any_eq_true, Option.isSome_iff_ne_none]
  · intro n
    cases ms <;> simp [needsExpand]

example : needsExpand [some [1], none] = true ∧ needsExpand [none, none] = false ∧
    (Decl.ofName ['o', '.', 'y'] [some [1], none]).names = [['o', '[', '1', ']', '.', 'y']] := by decide +kernel

/-- The arithmetic identity behind `reshape(vertcat(elements), reversed(shape)).T` under
    column-major storage: for a symbol of shape `(r, c)` the value has that shape and its entry
    `(i, j)` is the element created `(i·c + j)`-th, i.e. in row-major order. -/
theorem subst_entry {α} [Inhabited α] (r c : Nat) (elems : List α) (i j : Nat) (hi : i < r) (hj : j < c) :
    (substValue r c elems).rows = r ∧ (substValue r c elems).cols = c ∧
    (substValue r c elems).entry i j = elems.getD (i * c + j) default := by
  refine ⟨rfl, rfl, ?_⟩
  show (substValue r c elems).data.getD (i + j * r) default = _
  rw [substValue_data, getD_map_range (lin_lt hi hj), lin_div hi, lin_mod hi, Nat.add_comm]

example : (substValue 2 3 [10, 11, 12, 20, 21, 22]).entry 1 2 = 22 ∧
    (substValue 2 3 [10, 11, 12, 20, 21, 22]).data = [10, 20, 11, 21, 12, 22] := by decide +kernel

/-- `value[i, j]` is the symbol named `x[i+1, j+1]`, for every variable shape: at the storage
    position of element `idx` of the unexpanded symbol (column-major for 1-D/2-D, the raveled
    column of `_MTensor` beyond) the substitution value holds the scalar named with `idx`. -/
theorem subst_entry_named (d : Decl) (idx : List Nat) (hne : d.dims ≠ []) (h : InRange d.dims idx) :
    (substValue (mxShape d.dims).1 (mxShape d.dims).2 d.names).data.getD (elemPos d.dims idx) default
      = d.scalar idx :=
  substValue_getD hne h d.scalar

example : exW.dims ≠ [] ∧ InRange exW.dims [1, 0] ∧ exW.scalar [1, 0] = ['w', '[', '2', ',', '1', ']'] ∧
    elemPos exW.dims [1, 0] = 1 := ⟨by decide +kernel, by simp [exW, Decl.dims, iterShape, InRange], by decide +kernel, by decide +kernel⟩

/-- Within one variable the name determines the index tuple (no two scalars share a name). -/
theorem names_injective (d : Decl) (hp : d.parts.length = d.ms.length) (i1 i2 : List Nat)
    (h1 : i1.length = d.dims.length) (h2 : i2.length = d.dims.length)
    (h : d.scalar i1 = d.scalar i2) : i1 = i2 :=
  d.scalar_inj hp i1 i2 h1 h2 h

example : exW.parts.length = exW.ms.length ∧ exW.scalar [0, 1] ≠ exW.scalar [1, 0] := by decide +kernel

/-- `der(` … `)` is split off as a prefix and a suffix (not as character sets): for a name that
    does not itself start with `der(` nor end with `)`, whatever its letters (`rho`, `d`, `e1`, `drum.e` …),
    the derivative symbol `der(name)` is parsed into exactly `der(`, `name`, `)`. -/
theorem splitName_der_wrap (core : List Char) (h1 : stripDer core = ([], core))
    (h2 : core.reverse.takeWhile (· == ')') = []) :
    splitName (['d', 'e', 'r', '('] ++ core ++ [')']) = (['d', 'e', 'r', '('], core, [')']) := by
  have hd : core.reverse.dropWhile (· == ')') = core.reverse := by
    have := List.takeWhile_append_dropWhile (p := (· == ')')) (l := core.reverse)
    rwa [h2, List.nil_append] at this
  simp only [splitName, List.cons_append, List.nil_append, stripDer, stripDer_append_rparen h1, List.reverse_append,
    List.reverse_cons, List.reverse_nil, List.takeWhile, List.dropWhile, beq_self_eq_true, h2, hd,
    List.reverse_reverse]

example : splitName ['d','e','r','(','r','h','o',')'] = (['d','e','r','('], ['r','h','o'], [')']) ∧
    stripDer ['d','r','u','m','.','e'] = ([], ['d','r','u','m','.','e']) ∧
    (['e', '1'] : List Char).reverse.takeWhile (· == ')') = [] := by decide +kernel

/-- Stripping the bracket groups of a scalar's name gives back the variable's name. -/
theorem name_strips_to_variable (d : Decl) (hp : d.parts.length = d.ms.length)
    (hpre : NoBr d.pre) (hpost : NoBr d.post) (hparts : ∀ p ∈ d.parts, NoBr p) (idx : List Nat) :
    unbr false (d.scalar idx) = d.pre ++ dotJoin d.parts ++ d.post :=
  d.unbr_scalar hp hpre hpost hparts idx

example : NoBr exW.pre ∧ NoBr exW.post ∧ (∀ p ∈ exW.parts, NoBr p) ∧
    unbr false (exW.scalar [1, 1]) = ['w'] := ⟨by simp [NoBr, exW], by simp [NoBr, exW], by simp [NoBr, exW], by decide +kernel⟩

/-- Scalars of different variables have different names (the variables' names contain no `[`). -/
theorem names_injective_across (d1 d2 : Decl) (hp1 : d1.parts.length = d1.ms.length)
    (hp2 : d2.parts.length = d2.ms.length)
    (hb1 : NoBr d1.pre ∧ NoBr d1.post ∧ ∀ p ∈ d1.parts, NoBr p)
    (hb2 : NoBr d2.pre ∧ NoBr d2.post ∧ ∀ p ∈ d2.parts, NoBr p)
    (i1 i2 : List Nat) (h : d1.scalar i1 = d2.scalar i2) :
    d1.pre ++ dotJoin d1.parts ++ d1.post = d2.pre ++ dotJoin d2.parts ++ d2.post := by
  rw [← name_strips_to_variable d1 hp1 hb1.1 hb1.2.1 hb1.2.2 i1,
      ← name_strips_to_variable d2 hp2 hb2.1 hb2.2.1 hb2.2.2 i2, h]

-- `der(a.b.c)` with shape ((2,), (None,), (2, 3)), index (1, 0, 2)  ↦  `der(a[2].b.c[1,3])`
example : (Decl.ofName ['d','e','r','(','a','.','b','.','c',')'] [some [2], none, some [2, 3]]).scalar [1, 0, 2]
    = ['d','e','r','(','a','[','2',']','.','b','.','c','[','1',',','3',']',')'] := by decide +kernel

example : expandDelayNames ['_','d'] [2, 1] = [['_','d','[','1',',','1',']'], ['_','d','[','2',',','1',']']] := by
  decide +kernel

/-- An attribute list whose shape `ds` is the variable's iterator shape, or only its trailing
    dimensions (the attribute was given inside the class of an array of components: iterator
    shape `lead ++ ds`): the scalar with index tuple `idx` gets the scalar element reached with the
    last `ds.length` indices, and no exception is raised. -/
theorem attr_element (v : NList) (lead ds idx : List Nat) (hs : Shaped v ds)
    (hpos : ∀ d ∈ ds, 0 < d) (hr : InRange (lead ++ ds) idx) :
    selList v idx = v.sel (idx.drop lead.length) ∧ ∃ x, selList v idx = .ok (.leaf x) := by
  have e : idx.length - v.depth = lead.length := by
    rw [depth_shaped hs hpos, inRange_length hr, List.length_append, Nat.add_sub_cancel]
  have e' : selList v idx = v.sel (idx.drop lead.length) := by
    rw [selList, e]
  exact ⟨e', e' ▸ sel_shaped hs (inRange_drop hr)⟩

/-- the attribute has the full shape: element `idx` itself -/
theorem attr_element_full (v : NList) (ds idx : List Nat) (hs : Shaped v ds)
    (hpos : ∀ d ∈ ds, 0 < d) (hr : InRange ds idx) :
    selList v idx = v.sel idx ∧ ∃ x, selList v idx = .ok (.leaf x) :=
  attr_element v [] ds idx hs hpos hr

/-- What commit 5f5e413 fixed (DESIGN §6 row 19, finding C18-F1): applying the whole index tuple
    made the very first scalar fail with `TypeError` as soon as there was an enclosing array level. -/
theorem attr_inner_raised_before_fix (v : NList) (ds : List Nat) (n : Nat) (hs : Shaped v ds)
    (hpos : ∀ d ∈ ds, 0 < d) :
    selListFull v (List.replicate (ds.length + n + 1) 0) = .error "TypeError" := by
  induction ds generalizing v with
  | nil =>
    obtain ⟨x, rfl⟩ := shaped_nil hs
    rfl
  | cons d ds ih =>
    obtain ⟨x, hx, hsx⟩ := nth_shaped hs (hpos d List.mem_cons_self)
    rw [List.length_cons, Nat.add_right_comm _ 1 n, List.replicate_succ]
    simp only [selListFull, NList.sel, hx]
    exact ih x hsx fun d m => hpos d (List.mem_cons_of_mem _ m)

example : Shaped (.cons (.leaf 1) (.cons (.leaf 2) (.cons (.leaf 3) .nil))) [3] ∧
    selListFull (.cons (.leaf 1) (.cons (.leaf 2) (.cons (.leaf 3) .nil))) [0, 0] = .error "TypeError" ∧
    selList (.cons (.leaf 1) (.cons (.leaf 2) (.cons (.leaf 3) .nil))) [1, 2] = .ok (.leaf 3) := by
  refine ⟨⟨2, [], rfl, rfl, 1, [], rfl, rfl, 0, [], rfl, rfl, [], rfl⟩, rfl, rfl⟩

/-- `value[ind]` on a DM: with the variable's shape `(r, c)` the entry `(i, j)`; a DM column of an
    inner 1-D symbol (`lead` enclosing dimensions, `n ≠ 1` or no 2-D match) is indexed by the last index. -/
theorem attr_element_dm (lead : List Nat) (r c i j : Nat) (hi : i < r) (hj : j < c) :
    selDM (lead ++ [r, c]) r c (lead.map (fun _ => 0) ++ [i, j]) = .ok (i + j * r) :=
  selDM_trailing hi hj

example : selDM [3, 2] 3 2 [2, 1] = .ok 5 ∧ selDM [4, 3] 3 1 [2, 1] = .ok 1 := ⟨rfl, rfl⟩

/-- Shapes with a dimension of size 1 and DM attributes of inner symbols: a column matrix `x[n,1]`
    with a DM attribute of shape `(n, 1)` gives `x[i,1]` entry `i` (two indices are applied, the test
    is `iterator_shape[-2:] == value.shape`, not "the DM is a column"); a vector `w[n]` inside an array
    of `l` components (`n ≠ 1` or `l ≠ n`: the last two dimensions are not the DM's shape) gives
    `a[k].w[i]` entry `i` for every `k`. -/
theorem attr_element_dm_column (n l k i : Nat) (hi : i < n) :
    selDM [n, 1] n 1 [i, 0] = .ok i ∧ selDM [n] n 1 [i] = .ok i ∧
    (([l, n] : List Nat) ≠ [n, 1] → selDM [l, n] n 1 [k, i] = .ok i) := by
  have hi' : i < n * 1 := by rwa [Nat.mul_one]
  exact ⟨by simpa using selDM_trailing (lead := []) (l := []) hi Nat.one_pos,
    selDM_last (l := []) (by simp) hi', fun hne => selDM_last (l := [k]) hne hi'⟩

example : selDM [3, 1] 3 1 [2, 0] = .ok 2 ∧ selDM [2, 3] 3 1 [1, 2] = .ok 2 ∧ ([2, 3] : List Nat) ≠ [3, 1] :=
  ⟨rfl, rfl, by decide +kernel⟩

/-- A non-scalar MX attribute (an expression of array parameters, shape `(r, c)` = the variable's
    MX shape): the scalar `(i, j)` reads the storage position of element `(i, j)` — the same
    position `elemPos` the renamed point uses — and a 1-D variable's scalar `i` reads position `i`. -/
theorem attr_element_mx (r c i j : Nat) (hi : i < r) (hj : j < c) :
    selMX r c [i, j] = .ok (elemPos [r, c] [i, j]) ∧ selMX r 1 [i] = .ok (elemPos [r] [i]) := by
  simp [selMX, elemPos, hi, hj]

example : selMX 2 3 [1, 2] = .ok 5 ∧ selMX 2 3 [0, 1] = .ok 2 := ⟨rfl, rfl⟩

/-- An output that is an array variable is replaced, in place, by the variable's scalars in
    creation order; other outputs are untouched. -/
theorem outputs_renamed (l1 l2 : List (List Char)) (name : List Char) (new : List (List Char)) (h : name ∉ l1) :
    splice (l1 ++ name :: l2) name new = l1 ++ new ++ l2 ∧
    (∀ xs, name ∉ xs → splice xs name new = xs) :=
  ⟨splice_at h, fun _ hx => splice_absent hx⟩

example : splice [['y'], ['w'], ['z']] ['w'] [['a'], ['b']] = [['y'], ['a'], ['b'], ['z']] := by decide +kernel

/-- A delay state that is expanded is removed and its scalars (all dimensions indexed) are appended. -/
theorem delay_renamed (xs : List (List Char)) (name : List Char) (shape : List Nat) (h : name ∈ xs) :
    delayMove xs name (expandDelayNames name shape) = xs.erase name ++ (ndindex shape).map (fun idx => name ++ idxText idx) ∧
    (∀ ys, name ∉ ys → delayMove ys name (expandDelayNames name shape) = ys) := by
  refine ⟨by simp [delayMove, h, expandDelayNames], fun ys hy => by simp [delayMove, hy]⟩

example : delayMove [['d'], ['e']] ['d'] (expandDelayNames ['d'] [2, 1])
    = [['e'], ['d', '[', '1', ',', '1', ']'], ['d', '[', '2', ',', '1', ']']] := by decide +kernel

/-- The delay state named `name[i+1,j+1]` (the `(i·c + j)`-th created) delays entry `(i, j)` of the
    delayed matrix expression, i.e. reads storage position `i + j·r` — not position `i·c + j`. -/
theorem delay_arg_element (name : List Char) (r c i j : Nat) (hi : i < r) (hj : j < c) :
    (expandDelayNames name [r, c])[i * c + j]? = some (name ++ idxText [i, j]) ∧
    (delayArgPositions [r, c])[i * c + j]? = some (i + j * r) := by
  have h : InRange [r, c] [i, j] := ⟨hi, hj, trivial⟩
  have e : ravel [r, c] [i, j] = i * c + j := by simp [ravel, prod]
  exact e ▸ ⟨ndindex_map_getElem?_ravel _ h, ndindex_map_getElem?_ravel _ h⟩

example : delayArgPositions [2, 3] = [0, 2, 4, 1, 3, 5] ∧
    (expandDelayNames ['_', 'd'] [2, 3])[1]? = some ['_', 'd', '[', '1', ',', '2', ']'] := by decide +kernel

/-- Substituting `reshape(vertcat(scalars), reversed(shape)).T` for every array symbol and
    evaluating at the renamed point gives the value of the original expression. -/
theorem eval_renamed (ds : List Decl) (env : Env) (hwf : WF ds env) (e : Expr) (hc : Closed ds e) :
    eval (renameEnv ds env) (expandE (tableOf ds) e) = eval env e := by
  induction e with
  | var n =>
    obtain ⟨d, hd, hn⟩ := hc
    subst hn
    simp only [expandE, tableOf_decl hwf hd, Decl.entry]
    by_cases hdim : d.dims = []
    · simp only [hdim, if_true, eval]
      exact renameEnv_scalar_decl hwf hd hdim
    · simp only [hdim, if_false]
      exact eval_pack hwf hd hdim
  | pack r c names => exact absurd hc (by simp [Closed])
  | const m => rfl
  | el _ _ ih | smul _ _ ih | neg _ ih => simp only [expandE, eval, ih hc]
  | add _ _ iha ihb | sub _ _ iha ihb | emul _ _ iha ihb => simp only [expandE, eval, iha hc.1, ihb hc.2]

example : eval (renameEnv exDecls exEnv) (expandE (tableOf exDecls) exEq) = some ⟨2, 2, [-4, 4, -1, 11]⟩ := exEq_expanded

/-- **The expanded residual equals the unexpanded residual under the renaming**: for well-formed
    declarations (distinct names without brackets, one nesting level per name component) and a
    point giving every symbol a matrix of its shape, the entries of the expanded equations
    (`vertsplit(vec(substitute(eq)))`) evaluated at the point that assigns to each scalar name the
    matching element are the column-major entries of the original residuals, in order. -/
theorem residual_renamed (ds : List Decl) (env : Env) (hwf : WF ds env) (eqs : List Expr)
    (hc : ∀ e ∈ eqs, Closed ds e) :
    residual (renameEnv ds env) (eqs.map (expandE (tableOf ds))) = residual env eqs := by
  induction eqs with
  | nil => rfl
  | cons e es ih =>
    simp only [List.map_cons, residual, eval_renamed ds env hwf e (hc e List.mem_cons_self),
      ih fun e' m => hc e' (List.mem_cons_of_mem _ m)]

/-- the renamed point assigns to each scalar name the matching element (the hypothesis of the
    informal statement is what `renameEnv` computes) -/
theorem renamed_point (ds : List Decl) (env : Env) (hwf : WF ds env) (d : Decl) (hd : d ∈ ds) (hdim : d.dims ≠ [])
    (m : IMat) (hm : env d.name = some m) (idx : List Nat) (hi : InRange d.dims idx) :
    renameEnv ds env (d.scalar idx) = some ⟨1, 1, [m.data.getD (elemPos d.dims idx) 0]⟩ :=
  renameEnv_elem hwf hd hdim hm (mem_ndindex.2 hi)

-- `Real w[2,2]; Real z;`, `w = [[1,2],[3,4]]`, `z = 5`, equation `w .* w - z`: entries (1,1), (2,1), (1,2), (2,2)
example : WF exDecls exEnv ∧ Closed exDecls exEq ∧
    residual (renameEnv exDecls exEnv) [expandE (tableOf exDecls) exEq] = some [-4, 4, -1, 11] :=
  ⟨exWF, exClosed, by rw [residual, exEq_expanded]; rfl⟩

example : renameEnv exDecls exEnv (exW.scalar [0, 1]) = some ⟨1, 1, [2]⟩ := by decide +kernel

end PymocaVerif.VecExpand
