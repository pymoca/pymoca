import PymocaVerif.Lemmas.ParseCache
import PymocaVerif.Generated.SqlProgram
/-!
# C01 — the parse cache is transparent over any cache history

Theorems about `Model/ParseCache.lean` (the state machine that follows `parser.parse` and
`_check_database_structure` statement by statement).  `pf` is the uncached parser, arbitrary.
Histories are arbitrary finite lists of operations: parses with any flags, module reload, version
change (clean or dirty), clock advance, damage to an entry / to a table layout / to the whole file,
rows written by another pymoca version.

Two findings came out of these proofs (see `known/C01.json`):

* **C01-F2** (fixed in /repo by 821b239, `proposed_fixes/C01-1.diff`): the file is deleted / overwritten /
  loses its `models` table *after* this process put it into `parse.initialized_dbs`; without the recovery
  handler the next `parse` raises.  Model flag `Cfg.recover`; counterexample `damaged_while_initialised_raises`.
* **C01-F3** (fixed in /repo by 921daaa, `proposed_fixes/C01-2.diff`): the `models` table is replaced, after initialisation, by one on
  which the lookup works but the insert does not (an additional NOT NULL column): the recovery handler only
  guards the lookup, `parse` raises `IntegrityError` at the cache write.  Model flag `Cfg.writeTolerant`;
  counterexample `write_damage_raises`.

Theorems that need a region excluded are named `…_partial`; `parse_transparent` / `history_transparent` are the
complete statement and hold for code with both flags.  `current_code_…` instantiate them with what the
translator reads off the current sources.
-/
namespace PymocaVerif.C01
open PymocaVerif.ParseCache

variable {pf : Ver → TextId → Option TreeId} {cfg : Cfg}

/-- **Every operation preserves the row invariant** (each stored row that unpickles to a tree holds the tree
    of the uncached parse of its own text under its own version) — including every corruption, from every
    state, and also when `parse` raises. -/
theorem inv_step (s : St) (op : Op) (hadm : Admissible pf op) (h : RowInv pf s) : RowInv pf (step cfg pf s op).1 :=
  rowInv_step hadm h

example : RowInv (fun _ x => if x = 1 then none else some (x + 10))
      ⟨.db (some ⟨.ok, [⟨0, 0, .good (some 10), 3⟩, ⟨2, 1, .bad .eof, 4⟩, ⟨1, 0, .good none, 4⟩]⟩) none, true, 9, 0, 0, false⟩ ∧
    Admissible (fun _ x => if x = 1 then none else some (x + 10)) (.corruptEntry 0 0 (.bad .eof)) := by
  refine ⟨?_, trivial⟩
  intro r hr t ht
  simp [rowsOf] at hr
  rcases hr with rfl | rfl | rfl <;> simp_all

/-- **A parse returns exactly what the uncached parser returns** — a tree equal to the fresh one, `none`
    exactly for a syntax error, never an exception — from every state that satisfies the invariant, whatever
    damaged entries, metadata, `noPk` layout or file it contains; *partial* (any code): states in which the
    `models` table was made unusable after this process initialised it (`¬ Synced`) are excluded. -/
theorem parse_transparent_partial (hc : CaughtAll cfg) (s : St) (h : RowInv pf s) (hs : Synced s)
    (x : TextId) (days : Int) (upd bypass : Bool) :
    (step cfg pf s (.parse x days upd bypass)).2 = some (.value (pf s.ver x)) :=
  step_parse bypass (parseCached_spec hc h (synced_ready hs)).1

example : RowInv (fun _ _ => some 7) ⟨.db (some ⟨.noPk, [⟨0, 0, .bad .eof, 3⟩]⟩) (some .alien), false, 10, 1, 0, false⟩ ∧
    Synced ⟨.db (some ⟨.noPk, [⟨0, 0, .bad .eof, 3⟩]⟩) (some .alien), false, 10, 1, 0, false⟩ :=
  ⟨by
    intro r hr t ht
    simp [rowsOf] at hr
    subst hr
    simp at ht,
   by
    intro h
    cases h⟩

/-- In particular the result is `none` iff the text has a syntax error. -/
theorem none_iff_syntax_error_partial (hc : CaughtAll cfg) (s : St) (h : RowInv pf s) (hs : Synced s)
    (x : TextId) (days : Int) (upd bypass : Bool) :
    (step cfg pf s (.parse x days upd bypass)).2 = some (.value none) ↔ pf s.ver x = none := by
  rw [parse_transparent_partial hc s h hs, Option.some.injEq, Res.value.injEq]

example : (step { caught := ["Exception"] } (fun _ _ => (none : Option TreeId)) (St.initial 0) (.parse 3 30 false false)).2
    = some (.value none) := by decide

/-- With the recovery handler (`cfg.recover`, the code since 821b239): also from states in which the file was
    deleted / overwritten / lost its `models` table after initialisation; *partial*: a table on which the lookup
    works and the insert does not (`extraCol`, finding C01-F3) installed after initialisation is excluded. -/
theorem parse_transparent_recover_partial (hc : CaughtAll cfg) (hr : cfg.recover = true) (s : St) (h : RowInv pf s)
    (hu : Usable s) (x : TextId) (days : Int) (upd bypass : Bool) :
    (step cfg pf s (.parse x days upd bypass)).2 = some (.value (pf s.ver x)) :=
  step_parse bypass (parseCached_spec hc h (usable_ready hr hu)).1

example : Usable ⟨.garbage, true, 10, 1, 0, false⟩ ∧ ¬ Synced ⟨.garbage, true, 10, 1, 0, false⟩ :=
  ⟨fun _ => Or.inl rfl, by
    intro h
    obtain ⟨m, hm, _⟩ := h rfl
    simp [DbFile.queryable] at hm⟩

/-- **The complete statement for one parse** (code with the recovery handler *and* a cache write whose failure is
    not propagated, `cfg.writeTolerant`): from *every* state satisfying the row invariant — no hypothesis on what
    happened to the file or when — the parse returns the uncached result and raises nothing. -/
theorem parse_transparent (hc : CaughtAll cfg) (hr : cfg.recover = true) (hw : cfg.writeTolerant = true) (s : St)
    (h : RowInv pf s) (x : TextId) (days : Int) (upd bypass : Bool) :
    (step cfg pf s (.parse x days upd bypass)).2 = some (.value (pf s.ver x)) :=
  step_parse bypass (parseCached_result_tolerant hc hr hw h)

example : RowInv (fun _ _ => some 7) ⟨.db (some ⟨.extraCol, []⟩) none, true, 10, 1, 0, false⟩ ∧
    ¬ Usable ⟨.db (some ⟨.extraCol, []⟩) none, true, 10, 1, 0, false⟩ := by
  refine ⟨fun r hr => by simp [rowsOf] at hr, ?_⟩
  intro h
  rcases h rfl with hq | ⟨m, hm, hl⟩
  · simp [DbFile.queryable] at hq
  · simp [DbFile.queryable] at hm
    subst hm
    exact hl rfl

/-- no damaging operation (file deleted / overwritten, `models` dropped / alien / extraCol) happens while the
    process holds the database initialised -/
def Undamaged (cfg : Cfg) (pf : Ver → TextId → Option TreeId) : St → List Op → Prop
  | _, [] => True
  | s, op :: ops => (damaging op = true → s.init = false) ∧ Undamaged cfg pf (step cfg pf s op).1 ops

/-- no *write*-damage (`models` replaced by an `extraCol` table) happens while the process holds the database
    initialised; any other damage may happen at any time -/
def UndamagedWrite (cfg : Cfg) (pf : Ver → TextId → Option TreeId) : St → List Op → Prop
  | _, [] => True
  | s, op :: ops => (damagingWrite op = true → s.init = false) ∧ UndamagedWrite cfg pf (step cfg pf s op).1 ops

/-- every parse of the run returns the uncached result -/
def Transparent (cfg : Cfg) (pf : Ver → TextId → Option TreeId) : St → List Op → Prop
  | _, [] => True
  | s, op :: ops =>
    (∀ x d u b, op = .parse x d u b → (step cfg pf s op).2 = some (.value (pf s.ver x))) ∧
    Transparent cfg pf (step cfg pf s op).1 ops

/-- every parse of the run *from a synced state* returns the uncached result -/
def TransparentWhenSynced (cfg : Cfg) (pf : Ver → TextId → Option TreeId) : St → List Op → Prop
  | _, [] => True
  | s, op :: ops =>
    (∀ x d u b, op = .parse x d u b → Synced s → (step cfg pf s op).2 = some (.value (pf s.ver x))) ∧
    TransparentWhenSynced cfg pf (step cfg pf s op).1 ops

/-- **Every parse of every finite history returns the uncached result** (any code), from any state satisfying the
    invariant, for every sequence of parses with any flags, reloads, version changes, clock advances, damaged
    entries, damaged metadata, `noPk` layouts and foreign rows — *partial*: the damaging operations may only
    happen while the process does not hold the database initialised. -/
theorem history_transparent_partial (hc : CaughtAll cfg) (ops : List Op) :
    ∀ (s : St), RowInv pf s → Synced s → (∀ op ∈ ops, Admissible pf op) → Undamaged cfg pf s ops →
      Transparent cfg pf s ops := by
  induction ops with
  | nil =>
    intros
    trivial
  | cons op ops ih =>
    intro s h hs hadm hund
    obtain ⟨hop, hadm⟩ := List.forall_mem_cons.mp hadm
    refine ⟨?_, ih _ (inv_step s op hop h) (synced_step hc h hs hund.1) hadm hund.2⟩
    rintro x d u b rfl
    exact parse_transparent_partial hc s h hs x d u b

/-- The same without any restriction on the history: every parse that starts from a synced state is
    transparent; the invariant itself never breaks, so a reload always restores transparency. -/
theorem history_transparent_when_synced (hc : CaughtAll cfg) (ops : List Op) :
    ∀ (s : St), RowInv pf s → (∀ op ∈ ops, Admissible pf op) → TransparentWhenSynced cfg pf s ops := by
  induction ops with
  | nil =>
    intros
    trivial
  | cons op ops ih =>
    intro s h hadm
    obtain ⟨hop, hadm⟩ := List.forall_mem_cons.mp hadm
    refine ⟨?_, ih _ (inv_step s op hop h) hadm⟩
    rintro x d u b rfl hs
    exact parse_transparent_partial hc s h hs x d u b

/-- **Histories with the recovery handler** (`cfg.recover`): the file may be deleted, overwritten, stripped of its
    tables or given alien tables at *any* time; *partial*: only the `extraCol` replacement of `models` while
    initialised (finding C01-F3) is excluded. -/
theorem history_transparent_recover_partial (hc : CaughtAll cfg) (hr : cfg.recover = true) (ops : List Op) :
    ∀ (s : St), RowInv pf s → Usable s → (∀ op ∈ ops, Admissible pf op) → UndamagedWrite cfg pf s ops →
      Transparent cfg pf s ops := by
  induction ops with
  | nil =>
    intros
    trivial
  | cons op ops ih =>
    intro s h hu hadm hund
    obtain ⟨hop, hadm⟩ := List.forall_mem_cons.mp hadm
    refine ⟨?_, ih _ (inv_step s op hop h) (usable_step hc hr h hu hund.1) hadm hund.2⟩
    rintro x d u b rfl
    exact parse_transparent_recover_partial hc hr s h hu x d u b

/-- **The complete statement for histories** (`cfg.recover` and `cfg.writeTolerant`): every parse of every finite
    history — any interleaving of parses, reloads, version changes, clock advances and *any* damage to entries,
    layouts or the whole file at *any* time — returns the uncached result. -/
theorem history_transparent (hc : CaughtAll cfg) (hr : cfg.recover = true) (hw : cfg.writeTolerant = true)
    (ops : List Op) :
    ∀ (s : St), RowInv pf s → (∀ op ∈ ops, Admissible pf op) → Transparent cfg pf s ops := by
  induction ops with
  | nil =>
    intros
    trivial
  | cons op ops ih =>
    intro s h hadm
    obtain ⟨hop, hadm⟩ := List.forall_mem_cons.mp hadm
    refine ⟨?_, ih _ (inv_step s op hop h) hadm⟩
    rintro x d u b rfl
    exact parse_transparent hc hr hw s h x d u b

example : (run { caught := ["Exception"], recover := true, writeTolerant := true } (fun _ x => some (x + 5)) (St.initial 0)
      [.parse 0 30 false false, .corruptFile .delete, .parse 0 30 false false, .corruptLayout .models .alien,
       .parse 0 30 true false, .corruptFile .text, .parse 0 30 false false, .corruptLayout .models .extraCol,
       .parse 1 30 false false, .parse 0 30 false false, .parse 1 30 false false]).filterMap (·.2) =
      [.value (some 5), .value (some 5), .value (some 5), .value (some 5), .value (some 6), .value (some 5),
       .value (some 6)] := by decide +kernel

/-- a 17-operation history with a hit, a prune, an entry that does not unpickle, an entry that unpickles to
    `None`, a wrong layout, a corrupt file (after a reload), a foreign row and a version change -/
def demoOps : List Op :=
  [.parse 0 30 false false, .parse 0 30 true false, .corruptEntry 0 0 (.bad .eof), .parse 0 30 false false,
   .corruptEntry 0 0 (.good none), .parse 1 30 false false, .reload, .corruptFile .text, .tick 3000000000000,
   .parse 0 1 false false, .foreignWrite 0 7 0, .setVersion 1 false, .corruptLayout .metadata .alien, .reload,
   .corruptLayout .models .noPk, .parse 0 0 false false, .parse 0 30 false false]

def demoPf : Ver → TextId → Option TreeId := fun v x => if x = 1 then none else some (100 * v + x)

example : (∀ op ∈ demoOps, Admissible demoPf op) ∧ Undamaged { caught := ["Exception"] } demoPf (St.initial 1000) demoOps := by
  refine ⟨by decide, ?_⟩
  simp only [demoOps, Undamaged]
  decide

example : (run { caught := ["Exception"] } demoPf (St.initial 1000) demoOps).filterMap (·.2) =
    [.value (some 0), .value (some 0), .value (some 0), .value none, .value (some 0), .value (some 100), .value (some 100)] := by
  decide +kernel

/-- **A failed parse is never stored**: in every history in which the harness does not itself plant a blob that
    unpickles to `None`, no row of the database ever unpickles to `None` — whatever else happens (syntax
    errors, damaged entries, layouts, files, exceptions). -/
theorem none_never_stored (ops : List Op) :
    ∀ (s : St), NoNone s.file → (∀ op ∈ ops, plantsNone op = false) → NoNone (finalState cfg pf s ops).file := by
  induction ops with
  | nil =>
    intro s h _
    exact h
  | cons op ops ih =>
    intro s h hp
    obtain ⟨hop, hp⟩ := List.forall_mem_cons.mp hp
    exact ih _ (noNone_step hop h) hp

example : NoNone (St.initial 0).file ∧ ∀ op ∈ [Op.parse 1 30 false false, .corruptEntry 1 0 (.bad .eof), .parse 0 30 false false],
    plantsNone op = false := ⟨fun r hr => by simp [St.initial, rowsOf] at hr, by decide⟩

/-- … and a planted one is never served: with a row that unpickles to `None` the parse still returns the
    fresh tree and replaces the row. -/
theorem planted_none_not_served :
    (run { caught := ["Exception"] } (fun _ _ => some 5) (St.initial 0)
      [.parse 0 30 false false, .corruptEntry 0 0 (.good none), .parse 0 30 false false]).map (·.2) =
      [some (.value (some 5)), none, some (.value (some 5))] ∧
    NoNone (finalState { caught := ["Exception"] } (fun _ _ => some 5) (St.initial 0)
      [.parse 0 30 false false, .corruptEntry 0 0 (.good none), .parse 0 30 false false]).file := by
  refine ⟨by decide +kernel, ?_⟩
  unfold NoNone
  decide +kernel

/-- what the translator read off the current `parse` -/
def currentCfg : Cfg :=
  { caught := Generated.SqlProgram.caughtUnpickle, recover := Generated.SqlProgram.recoversAfterDamage,
    writeTolerant := Generated.SqlProgram.toleratesWriteFailure }

/-- The `except` clause around `pickle.loads` in the current `parse` (extracted by the translator) catches
    every exception class a damaged blob was seen to raise. -/
theorem caught_classes_cover : CaughtAll currentCfg :=
  caughtAll_of_all (by decide)

/-- The current `parse` has the handler that re-validates a database it can no longer query (fix 821b239). -/
theorem current_parse_recovers : currentCfg.recover = true := by decide

/-- The current `parse` does not propagate a failure of the cache write (fix 921daaa). -/
theorem current_parse_tolerates_write_failure : currentCfg.writeTolerant = true := by decide

/-- **C01 for the code as it is now**: with the facts the translator reads off the current sources, every parse of
    every finite history — any interleaving of parses, reloads, version changes, clock advances and any damage to
    entries, layouts or the whole file at any time — returns the uncached result: `none` iff syntax error, never an
    exception. -/
theorem current_code_transparent (ops : List Op) (s : St) (h : RowInv pf s) (hadm : ∀ op ∈ ops, Admissible pf op) :
    Transparent currentCfg pf s ops :=
  history_transparent caught_classes_cover current_parse_recovers current_parse_tolerates_write_failure ops s h hadm

example : RowInv demoPf (St.initial 1000) ∧ (∀ op ∈ demoOps, Admissible demoPf op) :=
  ⟨initial_inv 1000, by decide⟩

/-- With only `pickle.UnpicklingError` caught (the code before 9e3ac59) an empty blob escapes as `EOFError`. -/
theorem narrow_except_raises :
    (run { caught := ["pickle.UnpicklingError"] } (fun _ _ => some 5) (St.initial 0)
      [.parse 0 30 false false, .corruptEntry 0 0 (.bad .eof), .parse 0 30 false false]).map (·.2) =
      [some (.value (some 5)), none, some (.raised (.unpickle .eof))] := by decide +kernel

/-- **Finding C01-F2 on the model** (code without the recovery handler): parse, then the file is deleted while
    the process keeps it in `initialized_dbs`, then parse again: `DatabaseError`; after a reload it succeeds. -/
theorem damaged_while_initialised_raises :
    (run { caught := ["Exception"] } (fun _ _ => some 5) (St.initial 0)
      [.parse 0 30 false false, .corruptFile .delete, .parse 0 30 false false, .reload, .parse 0 30 false false]).map (·.2) =
      [some (.value (some 5)), none, some (.raised .db), none, some (.value (some 5))] := by decide +kernel

/-- **Finding C01-F3 on the model** (recovery handler, cache write not tolerated — the code as of 821b239): the
    `models` table is replaced by one with an additional NOT NULL column while the process holds the database
    initialised; a hit is still served, a miss raises at the insert; after a reload everything works. -/
theorem write_damage_raises :
    (run { caught := ["Exception"], recover := true } (fun _ x => some (x + 5)) (St.initial 0)
      [.parse 0 30 false false, .corruptLayout .models .extraCol, .parse 0 30 false false, .parse 1 30 false false,
       .reload, .parse 1 30 false false]).map (·.2) =
      [some (.value (some 5)), none, some (.value (some 5)), some (.raised .db), none, some (.value (some 6))] := by
  decide +kernel

end PymocaVerif.C01
