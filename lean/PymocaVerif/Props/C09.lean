import PymocaVerif.Lemmas.ConnectHeap
import PymocaVerif.Lemmas.ConnectSem
import Mathlib.Algebra.Field.Defs
/-!
# C09 — connections produce exactly the connection-set equations

Property theorems only (definitions and helper lemmas live in `Model/Connect.lean` and
`Lemmas/Connect.lean`, `Lemmas/ConnectHeap.lean`, `Lemmas/ConnectSem.lean`).  `Conn es` is the
equivalence closure of an edge list, `Touched es k` says `k` is an end of an edge,
`IsComponent es S` says the duplicate-free list `S` is exactly the connected component of a touched
key.  All statements hold for every edge list, in every order, of every length.
-/
namespace PymocaVerif.Connect

/-- After processing *any* edge list, the distinct values of the association list are exactly the
    connected components of the edge graph on the touched keys: every value is a duplicate-free
    component, every touched key lies in one of them, and no two of them share a key (so each
    component occurs exactly once and gets exactly one flow-sum equation).  Chains, stars, cycles,
    duplicate edges, self edges and merges of two previously separate sets are all covered. -/
theorem sets_are_components {κ : Type} [DecidableEq κ] (es : List (κ × κ)) :
    (∀ S ∈ distinctSets (connectAll [] es), IsComponent es S) ∧
    (∀ k, Touched es k → ∃ S ∈ distinctSets (connectAll [] es), k ∈ S) ∧
    (distinctSets (connectAll [] es)).Pairwise (fun S T => ∀ k, k ∈ S → k ∉ T) :=
  (MapInv.of_run es).sets

-- non-vacuity: two pairs built separately and merged by a third edge between non-first members
example : distinctSets (connectAll ([] : FlowMap Nat) [(1, 2), (3, 4), (4, 2), (5, 5)])
    = [[3, 4, 1, 2], [5]] := by decide +kernel

/-- All members of a connection set hold the same list *object* (value): looking a member up
    gives the list it is a member of.  This is what makes the re-pointing loop of the code
    necessary and sufficient. -/
theorem members_share_their_set {κ : Type} [DecidableEq κ] (es : List (κ × κ)) (k k' : κ)
    (S : List κ) (h : get? (connectAll [] es) k = some S) (hk' : k' ∈ S) :
    get? (connectAll [] es) k' = some S :=
  (MapInv.of_run es).shared k S k' h hk'

example : get? (connectAll ([] : FlowMap Nat) [(1, 2), (3, 4), (4, 2)]) 1 = some [3, 4, 1, 2] ∧
    (2 : Nat) ∈ [3, 4, 1, 2] := by decide +kernel

/-- Reading `flow_connections` with object identities — the left `OrderedDict` is updated in place
    (which every key holding a reference to it sees at once), a fresh empty one is allocated for an
    unknown key, members are re-pointed at the left object, the final loop de-duplicates by
    identity — cannot be told apart from reading it with set values: after any edge list the
    dereferenced association list is the value-level one, entry for entry, and the sets emitted
    are the same lists in the same order. -/
theorem heap_refines_value {κ : Type} [DecidableEq κ] (es : List (κ × κ)) :
    ((Heap.empty : Heap κ).run es).view = connectAll [] es ∧
    ((Heap.empty : Heap κ).run es).sets = distinctSets (connectAll [] es) :=
  ⟨(HeapInv.of_run es).view, (HeapInv.of_run es).sets_run⟩

-- non-vacuity: object 2 (the set of 3, 4) absorbs object 0 (the set of 1, 2); object 0 is garbage
example : ((Heap.empty : Heap Nat).run [(1, 2), (3, 4), (4, 2)]).fc = [(1, 2), (2, 2), (3, 2), (4, 2)] ∧
    ((Heap.empty : Heap Nat).run [(1, 2), (3, 4), (4, 2)]).objs = [[1, 2], [], [3, 4, 1, 2], []] := by
  decide +kernel

/-- The whole pass gives the same result (equations or exception) under both readings; the
    driver runs the heap reading, the theorems above are about the value reading. -/
theorem heap_pass_eq_value_pass (inp : Input) :
    expandHeap inp = expand inp ∧ finalSetsHeap inp = finalSets inp :=
  expandWith_congr heapStore valueStore inp (heapStore_run inp)

example : expandHeap exInput = .ok [.pot "c1.a.v" "c2.a.v", .pot "o.v" "c1.a.v",
    .sum [("c1.a.i", false), ("c2.a.i", false), ("o.i", true)], .zero "c1.b.i"] :=
  (heap_pass_eq_value_pass exInput).1.trans (expand_exInputWith _)

/-- The connection sets the pass ends with are exactly the connected components of the
    flow-level edge graph (keys = flat flow variable with its inside/outside face). -/
theorem final_sets_are_components (inp : Input) (sets : List (List Key))
    (h : finalSets inp = .ok sets) :
    (∀ S ∈ sets, IsComponent (flowEdges inp.edges) S) ∧
    (∀ k, Touched (flowEdges inp.edges) k → ∃ S ∈ sets, k ∈ S) ∧
    sets.Pairwise (fun S T => ∀ k, k ∈ S → k ∉ T) := by
  rw [finalSets_ok h]
  exact sets_are_components (flowEdges inp.edges)

example : finalSets exInput = .ok [[("c1.a.i", true), ("c2.a.i", true), ("o.i", false)]] := by decide +kernel

/-- The pass raises (the code's `Exception("Unsupported connector variable prefixes")`) exactly
    when some connector variable of some connect clause has a prefix list outside the four
    recognised shapes; otherwise it returns equations. -/
theorem expand_raises_iff (inp : Input) :
    (∃ x, expand inp = .error x) ↔ ¬ Supported inp.edges := by
  rw [expand, expandWith_eq, ← firstBad_eq_none]
  cases firstBad inp.edges with
  | some x => exact iff_of_true ⟨x, rfl⟩ nofun
  | none => exact iff_of_false nofun (not_not_intro rfl)

example : ¬ Supported [⟨"", ["a"], ["b"], [⟨"d", ["discrete"]⟩]⟩] :=
  fun h => h _ List.mem_cons_self _ List.mem_cons_self (by decide +kernel)

/-- One equality per edge is as strong as equality throughout every connected component. -/
theorem potential_equiv {α β : Type} (es : List (α × α)) (σ : α → β) :
    (∀ p ∈ es, σ p.1 = σ p.2) ↔ (∀ a b, Conn es a b → σ a = σ b) :=
  eq_along_edges_iff es σ

example : Conn [((1 : Nat), 2), (3, 2)] 1 3 :=
  (Conn.edge (a := 1) (b := 2) (by simp)).trans (Conn.edge (a := 3) (b := 2) (by simp)).symm

section Algebra
variable {K : Type} [AddCommGroup K]

/-- The equation emitted for a connection set states: (sum over inside members) − (sum over
    outside members) = 0; this includes the all-outside form, which is written without minus
    signs and is the same equation multiplied by −1. -/
theorem flow_sum_sign (S : List Key) (σ : String → K) :
    (sumEqn S).holds σ ↔
      ((S.filter fun k => k.2).map fun k => σ k.1).sum -
      ((S.filter fun k => !k.2).map fun k => σ k.1).sum = 0 := by
  rw [sumEqn_holds, signed_sum_split]

example : sumEqn [("o1.i", false), ("o2.i", false)] = .sum [("o1.i", false), ("o2.i", false)] ∧
    sumEqn [("o.i", false), ("c.a.i", true)] = .sum [("o.i", true), ("c.a.i", false)] := by decide +kernel

/-- The pop-by-name rule (`byName`, the code before the fix of C09-F1; on single-level models the
    same as the current rule) emits `f = 0` exactly for the flow symbols no end of a connect clause
    refers to, under either face. -/
theorem unconnected_zero (inp : Input) (eqs : List Eqn) (h : expand inp = .ok eqs)
    (hp : inp.policy = .byName) (f : String) :
    Eqn.zero f ∈ eqs ↔ f ∈ inp.flowSyms ∧ ∀ b, ¬ Touched (flowEdges inp.edges) (f, b) := by
  rw [zero_mem_iff h, hp, mem_popped_byName, not_exists]

example : ∃ eqs, expand exInput = .ok eqs ∧ Eqn.zero "c1.b.i" ∈ eqs ∧ Eqn.zero "c1.a.i" ∉ eqs := by
  refine ⟨_, expand_exInputWith _, ?_, ?_⟩ <;> decide +kernel

/-- The equations derived by the pass have exactly the solutions of the reference connection
    semantics of the property text — for every flat class the pass accepts, whatever the number,
    order and shape of its connect clauses. -/
theorem solutions_equal (inp : Input) (eqs : List Eqn) (h : expand inp = .ok eqs)
    (hp : inp.policy = .byName) (σ : String → K) : Sol eqs σ ↔ RefSol inp σ := by
  rw [sol_iff h, refSol_iff, hp]
  exact RefWith.congr fun f _ => by rw [mem_popped_byName, not_exists]

-- non-vacuity: the small circuit is accepted and yields two potential equations, one mixed
-- inside/outside flow sum and one zero
example : expand exInput = .ok [.pot "c1.a.v" "c2.a.v", .pot "o.v" "c1.a.v",
    .sum [("c1.a.i", false), ("c2.a.i", false), ("o.i", true)], .zero "c1.b.i"] :=
  expand_exInputWith _

end Algebra

section Face
variable {K : Type} [AddCommGroup K]

/-- The code as it stands (`byFace`, fix `2598ca8`): the derived equations have exactly the
    solutions of the face-wise reference semantics, for every hierarchical flat class. -/
theorem solutions_equal_face (inp : Input) (eqs : List Eqn) (h : expand inp = .ok eqs)
    (hp : inp.policy = .byFace) (σ : String → K) : Sol eqs σ ↔ RefSolFace inp σ := by
  rw [sol_iff h, refSolFace_iff, hp]
  exact RefWith.congr fun f _ => by rw [mem_popped_byFace]

example : expand (exNested .byFace) = .ok [.pot "c.p.v" "c.r.a.v",
    .sum [("c.p.i", true), ("c.r.a.i", false)], .zero "c.p.i"] := by decide +kernel

/-- The property text ("every flow variable that appears in no connection is zero") and the
    face-wise rule of the specification describe the same solutions whenever no flow of a nested
    connector is connected only through its outside face — in particular on every single-level
    model. -/
theorem text_and_face_semantics_agree (inp : Input)
    (closed : ∀ f ∈ inp.flowSyms, Touched (flowEdges inp.edges) (f, false) →
      Touched (flowEdges inp.edges) (f, true) ∨ TouchedTop inp.edges f)
    (σ : String → K) : RefSol inp σ ↔ RefSolFace inp σ := by
  rw [refSol_iff, refSolFace_iff]
  refine RefWith.congr fun f hf => ?_
  -- a flow symbol is connected under some face iff it is under the inside face or at top level
  rw [← not_exists, not_congr]
  constructor
  · rintro ⟨b, hb⟩
    cases b with
    | true => exact .inl hb
    | false => exact closed f hf hb
  · rintro (q | q)
    · exact ⟨true, q⟩
    · exact q.touched

/-- Hence the code as it stands produces exactly the connection semantics of the property text on
    every flat class without open nested connectors (every single-level model). -/
theorem solutions_equal_current_code (inp : Input) (eqs : List Eqn) (h : expand inp = .ok eqs)
    (hp : inp.policy = .byFace)
    (closed : ∀ f ∈ inp.flowSyms, Touched (flowEdges inp.edges) (f, false) →
      Touched (flowEdges inp.edges) (f, true) ∨ TouchedTop inp.edges f)
    (σ : String → K) : Sol eqs σ ↔ RefSol inp σ := by
  rw [text_and_face_semantics_agree inp closed σ]
  exact solutions_equal_face inp eqs h hp σ

example : expand exInputFace = .ok [.pot "c1.a.v" "c2.a.v", .pot "o.v" "c1.a.v",
    .sum [("c1.a.i", false), ("c2.a.i", false), ("o.i", true)], .zero "c1.b.i"] ∧
    exInputFace.policy = .byFace := ⟨expand_exInputWith _, rfl⟩

/-- The code before the fix (`byName`) agrees with the face-wise semantics exactly under the
    hypothesis the proof cannot do without: no flow of a nested connector is connected only through
    its outside face (finding C09-F1 was the failure of this hypothesis).  In particular it
    holds for every single-level model — component connectors and top-level connectors — which is
    the graph domain the property names. -/
theorem solutions_equal_face_of_closed (inp : Input) (eqs : List Eqn) (h : expand inp = .ok eqs)
    (hp : inp.policy = .byName)
    (closed : ∀ f ∈ inp.flowSyms, Touched (flowEdges inp.edges) (f, false) →
      Touched (flowEdges inp.edges) (f, true) ∨ TouchedTop inp.edges f)
    (σ : String → K) : Sol eqs σ ↔ RefSolFace inp σ :=
  (solutions_equal inp eqs h hp σ).trans (text_and_face_semantics_agree inp closed σ)

-- the hypothesis holds for the single-level circuit …
example : ∀ f ∈ exInput.flowSyms, Touched (flowEdges exInput.edges) (f, false) →
    Touched (flowEdges exInput.edges) (f, true) ∨ TouchedTop exInput.edges f :=
  fun _ _ ht => .inr (TouchedTop.of_top_class (by decide) ht)
-- … and fails for the nested one, where the code before the fix emitted no `c.p.i = 0`
example : expand (exNested .byName) = .ok [.pot "c.p.v" "c.r.a.v",
    .sum [("c.p.i", true), ("c.r.a.i", false)]] := by decide +kernel

end Face

/-- `solutions_equal` for the case the property names: values in a field. -/
theorem solutions_equal_field {F : Type} [Field F] (inp : Input) (eqs : List Eqn)
    (h : expand inp = .ok eqs) (hp : inp.policy = .byName) (σ : String → F) :
    Sol eqs σ ↔ RefSol inp σ :=
  solutions_equal inp eqs h hp σ

example : ∃ eqs, expand exInput = .ok eqs ∧ exInput.policy = .byName := ⟨_, expand_exInputWith _, rfl⟩

end PymocaVerif.Connect
