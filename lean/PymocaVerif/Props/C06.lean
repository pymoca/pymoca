import PymocaVerif.Lemmas.ObjGraphTree
import PymocaVerif.Generated.CopyFlags
/-!
# C06 — deep copies of a tree are independent of the original

Model: `PymocaVerif.Model.ObjGraph` — `copy.deepcopy` with the memo, `_reconstruct`, pymoca's
`Class.__deepcopy__` (seeds the memo with the parent; the membership test is a parameter) and
`ClassModificationArgument.__deepcopy__` (scope shared), and the per-instance `__deepcopy__`
attribute the hooks leave behind (a parameter).  Edits through the AST API are arbitrary
allocations and writes confined to the objects of the edited tree.  What flattening a class of a
tree can depend on is the view (unfolding to any depth, identities erased) of the objects it
reaches; two trees with equal views flatten alike, and an edit that leaves all views of a tree
unchanged is invisible to every flatten of that tree.

Hypotheses (`Region`, `TreeShaped`, `NoScope`, no parent at the root) describe a tree as the
parser and the API build it; the driver evaluates them on snapshots of the real trees.
-/
namespace PymocaVerif.C06
open PymocaVerif.ObjGraph

abbrev current : Cfg := PymocaVerif.Generated.CopyFlags.current

/-- Obligation over the flags extracted from the code under test: memo test by id; both hooks
    leave no per-instance `__deepcopy__` behind. -/
theorem flags_ok : current.Good := ⟨rfl, rfl, rfl⟩

theorem deepcopy_unfold {cfg : Cfg} {H H' : Heap} {x y : Nat} (h : deepcopy cfg H x = some (H', y)) :
    ∃ st', deepcopySt cfg H x = some (st', y) ∧ st'.heap = H' :=
  deepcopy_eq_some.mp h

/-- **`deepcopy` terminates** (the recursion depth never exceeds the number of objects). -/
theorem copy_total (cfg : Cfg) (hg : cfg.Good) {H : Heap} {R : Nat → Prop} (hR : Region H R) {x : Nat}
    (hx : R x) : ∃ H' y, deepcopy cfg H x = some (H', y) := by
  obtain ⟨st', y, hs, _⟩ := deepcopy_spec hR hg hx
  exact ⟨st'.heap, y, deepcopy_eq_some.mpr ⟨st', hs, rfl⟩⟩

/-- **The original is untouched**: a deep copy only allocates. -/
theorem copy_preserves_original (cfg : Cfg) (hg : cfg.Good) {H H' : Heap} {R : Nat → Prop}
    (hR : Region H R) {x y : Nat} (hx : R x) (h : deepcopy cfg H x = some (H', y)) :
    ∀ o, o < H.length → H'[o]? = H[o]? := by
  obtain ⟨st', hs, rfl⟩ := deepcopy_unfold h
  exact fun _ ho => prefix_get (deepcopySt_spec hR hg hx hs).ext ho

/-- **The copy is isomorphic to the original**: to every depth it unfolds to the same view, and
    so does every object of the original afterwards. -/
theorem copy_iso (cfg : Cfg) (hg : cfg.Good) {H H' : Heap} {R : Nat → Prop}
    (hR : Region H R) {x y : Nat} (hx : R x) (h : deepcopy cfg H x = some (H', y)) (k : Nat) :
    view H' k y = view H k x ∧ ∀ a, R a → view H' k a = view H k a := by
  obtain ⟨st', hs, rfl⟩ := deepcopy_unfold h
  have out := deepcopySt_spec hR hg hx hs
  exact ⟨view_copy hR out (List.prefix_refl _) k out.res, view_agree hR (hR.agreeOn_of_prefix out.ext) k⟩

/-- **The copy is closed**: nothing reachable from the copy of a tree — through `own` references,
    parents or scopes — existed before (so no class of the copy has a parent in the original). -/
theorem copy_closed (cfg : Cfg) (hg : cfg.Good) {H H' : Heap} {R : Nat → Prop}
    (hR : Region H R) (hts : TreeShaped H R) (hns : NoScope H R) {x y : Nat} (hx : R x)
    (hroot : ∀ o, H[x]? = some o → parentOfFields o.fields = none)
    (h : deepcopy cfg H x = some (H', y)) :
    ∀ i, Reach H' y i → H.length ≤ i ∧ i < H'.length := by
  obtain ⟨st', hs, rfl⟩ := deepcopy_unfold h
  have tc := tree_copy hR hts hns hg hx hroot hs
  intro i hi
  obtain ⟨a, hab⟩ := reach_region tc.region tc.root i hi
  exact ⟨(tc.fresh a i hab).1, (tc.out.dom a i hab).2⟩

/-- **The copy is a tree again** — closed, hook free, tree shaped, scope free, root without parent,
    disjoint from all that existed — while the original still is one: every statement here applies
    to copies of copies. -/
theorem copy_is_tree (cfg : Cfg) (hg : cfg.Good) {H H' : Heap} {R : Nat → Prop}
    (hR : Region H R) (hts : TreeShaped H R) (hns : NoScope H R) {x y : Nat} (hx : R x)
    (hroot : ∀ o, H[x]? = some o → parentOfFields o.fields = none)
    (h : deepcopy cfg H x = some (H', y)) :
    ∃ R' : Nat → Prop, Region H' R' ∧ TreeShaped H' R' ∧ NoScope H' R' ∧ R' y ∧
      (∀ o, H'[y]? = some o → parentOfFields o.fields = none) ∧ (∀ b, R' b → H.length ≤ b) ∧
      Region H' R ∧ TreeShaped H' R ∧ NoScope H' R := by
  obtain ⟨st', hs, rfl⟩ := deepcopy_unfold h
  have tc := tree_copy hR hts hns hg hx hroot hs
  have hag := hR.agreeOn_of_prefix tc.out.ext
  exact ⟨Copies st', tc.region, tc.tree, tc.noScope, tc.root, tc.rootParent,
    fun b ⟨a, hab⟩ => (tc.fresh a b hab).1, hR.congr hag, hts.congr hR hag, hns.congr hag⟩

/-- **An edit of one tree is invisible in the other**: an edit that allocates, and writes only to
    objects of tree 1 or to what it allocated, leaves every view of tree 2 unchanged (and tree 2 a
    region disjoint from the grown tree 1, so the statement applies to the next edit). -/
theorem edit_independent {H : Heap} {R1 R2 : Nat → Prop} (hR2 : Region H R2)
    (hdis : ∀ a, R1 a → R2 a → False) {e : Edit} (hc : Confined H R1 e) :
    (∀ k a, R2 a → view (applyEdit H e) k a = view H k a) ∧ Region (applyEdit H e) R2 ∧
      (∀ a, grow H R1 e a → R2 a → False) :=
  have hag := edit_frame hR2 hdis hc
  ⟨view_agree hR2 hag, hR2.congr hag, grow_disjoint hR2 hdis e⟩

/-- a run of edits of tree 1, each confined to what tree 1 consists of at that moment -/
def ConfinedRun : Heap → (Nat → Prop) → List Edit → Prop
  | _, _, [] => True
  | H, R1, e :: es => Confined H R1 e ∧ ConfinedRun (applyEdit H e) (grow H R1 e) es

def applyEdits : Heap → List Edit → Heap
  | H, [] => H
  | H, e :: es => applyEdits (applyEdit H e) es

/-- **Any number of edits** of one tree (add/remove classes, symbols, equations, …) leave every
    view of the other tree unchanged (induction over the run). -/
theorem edits_independent : ∀ (es : List Edit) {H : Heap} {R1 R2 : Nat → Prop}, Region H R2 →
    (∀ a, R1 a → R2 a → False) → ConfinedRun H R1 es →
      ∀ k a, R2 a → view (applyEdits H es) k a = view H k a := by
  intro es
  induction es with
  | nil =>
    intro H R1 R2 _ _ _ k a _
    rfl
  | cons e es ih =>
    intro H R1 R2 hR2 hdis hrun k a ha
    obtain ⟨hc, hrest⟩ := hrun
    obtain ⟨hv, hR2', hdis'⟩ := edit_independent hR2 hdis hc
    simp only [applyEdits]
    rw [ih hR2' hdis' hrest k a ha, hv k a ha]

/-- **Adding to one tree a copy of a class of another tree** (`find_class(copy=True)` or
    `copy.deepcopy`, then `add_class`) leaves every view of the tree the class was taken from
    unchanged: the copy still names the original's parent, but `add_class` writes only the new
    holder and the copy. -/
theorem add_copy_independent (cfg : Cfg) (hg : cfg.Good) {H H1 : Heap} {RA : Nat → Prop}
    (hRA : Region H RA) (hts : TreeShaped H RA) {c y : Nat} (hc : RA c) (hd : Detached H c)
    (h1 : deepcopy cfg H c = some (H1, y)) (holder : Nat) (hh : ¬ RA holder) :
    ∀ k a, RA a → view (applyEdit H1 (addClassEdit H1 holder y)) k a = view H k a := by
  obtain ⟨st', hs, rfl⟩ := deepcopy_unfold h1
  have out := deepcopySt_spec hRA hg hc hs
  have hRA1 : Region st'.heap RA := hRA.congr (hRA.agreeOn_of_prefix out.ext)
  -- the copy is new, so neither the holder nor the copy is an object of the tree
  have hy : ¬ RA y := fun h => absurd (hRA.lt h)
    (Nat.not_lt.mpr (copy_ownReach_fresh out hts hd (List.prefix_refl _) (OwnReach.refl y)).1)
  intro k a ha
  rw [view_agree hRA1 (addClassEdit_frame hRA1 hh hy) k a ha]
  exact (copy_iso cfg hg hRA hc h1 k).2 a ha

/-- **Removing a class** (by the name of the argument, whether the argument is the registered
    object or a copy of it) writes only the holder and the classes it held under that name: it is
    confined to any region that contains the holder and is closed, so it is invisible in every
    other tree. -/
theorem remove_class_confined {H : Heap} {R : Nat → Prop} (hR : Region H R) {holder : Nat} (hh : R holder)
    (n : String) (registered : Bool) : Confined H R (removeClassEdit H holder n registered) := by
  intro w hw
  rcases removeClassEdit_writes w hw with e | ⟨oh, ho, hc⟩
  · rw [e]
    exact Or.inl hh
  · exact Or.inl (hR.closed holder oh _ hh ho hc)

/-- **Copies of copies.**  Copy a tree, edit the copy in any way that leaves it a tree, copy the
    copy: the second copy unfolds like the *edited copy*, and the original still unfolds as it did
    before anything happened. -/
theorem copies_of_copies (cfg : Cfg) (hg : cfg.Good) {H H1 : Heap} {R : Nat → Prop}
    (hR : Region H R) (hts : TreeShaped H R) (hns : NoScope H R) {x y : Nat} (hx : R x)
    (hroot : ∀ o, H[x]? = some o → parentOfFields o.fields = none)
    (h1 : deepcopy cfg H x = some (H1, y)) :
    ∃ R1 : Nat → Prop, R1 y ∧ (∀ a, R1 a → R a → False) ∧
      ∀ (e : Edit), Confined H1 R1 e → Region (applyEdit H1 e) (grow H1 R1 e) →
        ∀ H3 z, deepcopy cfg (applyEdit H1 e) y = some (H3, z) →
          ∀ k, view H3 k z = view (applyEdit H1 e) k y ∧ ∀ a, R a → view H3 k a = view H k a := by
  obtain ⟨R1, hR1, _, _, hy, _, hfresh, hRH1, _, _⟩ := copy_is_tree cfg hg hR hts hns hx hroot h1
  have hdis : ∀ a, R1 a → R a → False := fun a h1' h2 =>
    absurd (hR.lt h2) (Nat.not_lt.mpr (hfresh a h1'))
  refine ⟨R1, hy, hdis, ?_⟩
  intro e hc hRe H3 z h3 k
  have hy' : grow H1 R1 e y := Or.inl hy
  obtain ⟨hz, _⟩ := copy_iso cfg hg hRe hy' h3 k
  refine ⟨hz, ?_⟩
  intro a ha
  -- the original: untouched by the second copy, by the edit, and by the first copy
  obtain ⟨hv, hR2, _⟩ := edit_independent hRH1 hdis hc
  obtain ⟨st3, hs3, rfl⟩ := deepcopy_unfold h3
  rw [view_agree hR2 (hR2.agreeOn_of_prefix (deepcopySt_spec hRe hg hy' hs3).ext) k a ha, hv k a ha]
  exact (copy_iso cfg hg hR hx h1 k).2 a ha

/-! ## a concrete tree: hypotheses satisfiable; the two defects the fix removed -/

/-- `Tree { class A { x; class B }, class C { c } }` -/
def demo : Heap :=
  [ { kind := .cls, name := "", label := "Tree", fields := [.own 1, .own 4], hook := none },
    { kind := .cls, name := "A", label := "A", fields := [.own 2, .own 3, .par 0], hook := none },
    { kind := .sym, name := "x", label := "x", fields := [], hook := none },
    { kind := .cls, name := "B", label := "B", fields := [.par 1], hook := none },
    { kind := .cls, name := "C", label := "C", fields := [.own 5, .par 0], hook := none },
    { kind := .sym, name := "c", label := "c", fields := [], hook := none } ]

theorem demo_region : Region demo (fun a => a < demo.length) := region_of_wfCheck (by decide +kernel)
theorem demo_tree : TreeShaped demo (fun a => a < demo.length) := treeShaped_of_check (by decide +kernel)
theorem demo_noScope : NoScope demo (fun a => a < demo.length) := noScope_of_check (by decide +kernel)

example : ∃ H' y, deepcopy current demo 0 = some (H', y) ∧ (∀ k, view H' k y = view demo k 0) ∧
    ∀ i, Reach H' y i → demo.length ≤ i := by
  obtain ⟨H', y, h⟩ := copy_total current flags_ok demo_region (x := 0) (by decide)
  refine ⟨H', y, h, fun k => (copy_iso current flags_ok demo_region (by decide) h k).1, ?_⟩
  intro i hi
  exact (copy_closed current flags_ok demo_region demo_tree demo_noScope (by decide)
    (fun _ ho => by cases ho; rfl) h i hi).1

/-- relabel the object at index `i` -/
def relabel (h : Heap) (i : Nat) (l : String) : Edit :=
  match h[i]? with
  | some o => { allocs := [], writes := [(i, { o with label := l })] }
  | none => { allocs := [], writes := [] }

theorem relabel_confined (h : Heap) (i : Nat) (l : String) (R1 : Nat → Prop) (hi : R1 i) :
    Confined h R1 (relabel h i l) := by
  unfold relabel Confined
  cases h[i]? with
  | none =>
    intro w hw
    cases hw
  | some o =>
    intro w hw
    simp only [List.mem_singleton] at hw
    subst hw
    exact Or.inl hi

/-- relabelling any objects of the copy, any number of times, is invisible in the original -/
example (H' : Heap) (y : Nat) (h : deepcopy current demo 0 = some (H', y)) (i j : Nat) (l : String)
    (hi : demo.length ≤ i) (hj : demo.length ≤ j) (k a : Nat) (ha : a < demo.length) :
    view (applyEdits H' [relabel H' i l, relabel (applyEdit H' (relabel H' i l)) j l]) k a = view demo k a := by
  obtain ⟨_, _, _, _, _, _, _, hRH', _, _⟩ :=
    copy_is_tree current flags_ok demo_region demo_tree demo_noScope (x := 0) (by decide)
      (fun _ ho => by cases ho; rfl) h
  have hdis : ∀ b, (fun b => demo.length ≤ b) b → (fun b => b < demo.length) b → False :=
    fun _ h1 h2 => absurd h2 (Nat.not_lt.mpr h1)
  rw [edits_independent _ hRH' hdis ?_ k a ha]
  · exact (copy_iso current flags_ok demo_region (by decide) h k).2 a ha
  · exact ⟨relabel_confined _ _ _ _ hi, relabel_confined _ _ _ _ (Or.inl hj), trivial⟩

/-- copy the tree, edit class `A` of the copy, copy the copy; compare the second copy with the
    edited first copy (labels in preorder, depth 3) -/
def secondGeneration (cfg : Cfg) : Option (List String × List String) :=
  match deepcopy cfg demo 0 with
  | none => none
  | some (H1, y) =>
    match lookupPath H1 y ["A"] with
    | none => none
    | some a =>
      let H2 := applyEdit H1 (relabel H1 a "A-edited")
      match deepcopy cfg H2 y with
      | none => none
      | some (H3, z) => some (viewLabels H3 3 z, viewLabels H2 3 y)

example : (match secondGeneration current with | some (l3, l2) => decide (l3 = l2) | none => false) = true := by
  decide +kernel

/-- copy class `A` of the tree and add the copy to class `C`: class `A` is still in the tree -/
example : (match deepcopy current demo 1 with
    | some (H1, y) => decide (lookupPath (applyEdit H1 (addClassEdit H1 4 y)) 0 ["A"] = some 1) &&
        decide (lookupPath (applyEdit H1 (addClassEdit H1 4 y)) 0 ["C", "A"] = some y)
    | none => false) = true := by
  decide +kernel

/-- adding a class under a name that is already there replaces the old one: after adding a copy of
    `C` to the root, the root holds the copy, not the old `C` -/
example : (match deepcopy current demo 4 with
    | some (H1, y) => decide (lookupPath (applyEdit H1 (addClassEdit H1 0 y)) 0 ["C"] = some y) &&
        decide (lookupPath (applyEdit H1 (addClassEdit H1 0 y)) 0 ["A"] = some 1)
    | none => false) = true := by
  decide +kernel

/-- **With move semantics in `add_class` the statement is false**: the copy still has the
    original's parent, so the *original* `A` is popped from the tree it was copied from. -/
theorem counterexample_add_class_moves :
    (match deepcopy current demo 1 with
     | some (H1, y) => decide (lookupPath (applyEdit H1 (addClassMoveEdit H1 4 y)) 0 ["A"] = none) &&
         decide (viewLabels (applyEdit H1 (addClassMoveEdit H1 4 y)) 3 0 ≠ viewLabels demo 3 0)
     | none => false) = true := by
  decide +kernel

/-- removing class `A` by name removes it, whether the registered object or a copy is passed -/
example : decide (lookupPath (applyEdit demo (removeClassEdit demo 0 "A" false)) 0 ["A"] = none) &&
    decide (lookupPath (applyEdit demo (removeClassEdit demo 0 "A" true)) 0 ["A"] = none) &&
    decide (lookupPath (applyEdit demo (removeClassEdit demo 0 "A" true)) 0 ["C"] = some 4) = true := by
  decide +kernel

/-- the hooks before the fix: the copy's instance attribute is the bound method of the original -/
def staleHook : Cfg := { current with hookRebind := .toOriginal }

/-- **With the stale hook a second-generation copy is a copy of the original**: the edit made to the
    first copy is missing from its copy. -/
theorem counterexample_stale_hook :
    (match secondGeneration staleHook with
     | some (l3, l2) => decide (l3 ≠ l2) && decide ("A-edited" ∈ l2) && decide ("A-edited" ∉ l3)
     | none => false) = true := by
  decide +kernel

/-- the memo test before the fix: `self.parent not in memo` (the memo is keyed by `id`) -/
def memoByObject : Cfg := { current with memoTest := .byObject }

/-- **With the memo test on the object the copy is not closed**: a class of the copy has its parent
    in the original tree. -/
theorem counterexample_parent_escape :
    (match deepcopy memoByObject demo 0 with
     | some (H', _) => (H'.drop demo.length).any fun o => o.fields.any fun f =>
         match f with | .par p => decide (p < demo.length) | _ => false
     | none => false) = true := by
  decide +kernel

end PymocaVerif.C06
