import PymocaVerif.Lemmas.Classify
import PymocaVerif.Generated.ClassifyTable
/-!
# C10 — the generated CasADi model classifies every variable exactly once

Property theorems only (definitions of the specification predicates `UnderDer`,
`ChildRefUnderDer` and helper lemmas live in `Lemmas/Classify.lean`).  All statements are about
the executable model `Model/Classify.lean` for *arbitrary* symbol tables and AST trees.
-/
namespace PymocaVerif.Classify

/-- The category lists (delay inputs set aside), in the order constants, string constants,
    parameters, string parameters, inputs, states, algebraic states. -/
def Lists.categories (l : Lists) (ndelay : Nat) : List String :=
  l.constants ++ l.stringConstants ++ (l.parameters ++ l.stringParameters) ++ l.inputs.drop ndelay ++
    l.states ++ l.algStates

/-- The counter-driven `StateAnnotator` marks exactly the symbols that
    are referenced below a `der(...)` at any nesting depth, anywhere in the class (equations,
    initial equations, bindings, component paths, indices): the symbols it returns are the
    input symbols with `"state"` appended to those in `M`, and `M` is characterised
    structurally by `UnderDer`. -/
theorem der_found_anywhere (syms syms' : List Sym) (t : Node) (h : annotate syms t = some syms') :
    ∃ M : List String, syms' = syms.map (annotateSym M) ∧
      ∀ x, x ∈ M ↔ (x ∈ syms.map (·.name) ∧ UnderDer false t x) := by
  rw [annotate_eq] at h
  split at h
  · cases h
  · exact ⟨_, (Option.some.inj h).symm, fun x => mem_refs_iff _ t false x⟩

example : annotate [⟨"x", [], "Real", 0, []⟩, ⟨"y", ["output"], "Real", 1, []⟩]
    (.mk "Equation" "" false
      [.mk "Expression" "+" false [.mk "Expression" "der" false [.mk "ComponentRef" "x" false []],
                                  .mk "ComponentRef" "y" false []]])
    = some [⟨"x", ["state"], "Real", 0, []⟩, ⟨"y", ["output"], "Real", 1, []⟩] := by decide +kernel

/-- Annotation changes nothing but the `"state"` prefix: a symbol carries `"state"` afterwards
    iff it did before or is referenced under a `der`; every other prefix, the name, type, order
    and dimensions are untouched. -/
theorem annotate_state_iff (M : List String) (names : List String) (t : Node)
    (hM : ∀ x, x ∈ M ↔ (x ∈ names ∧ UnderDer false t x)) (s : Sym) (hs : s.name ∈ names) :
    ("state" ∈ (annotateSym M s).prefixes ↔ ("state" ∈ s.prefixes ∨ UnderDer false t s.name)) ∧
    (∀ p, p ≠ "state" → (p ∈ (annotateSym M s).prefixes ↔ p ∈ s.prefixes)) ∧
    (annotateSym M s).name = s.name ∧ (annotateSym M s).type = s.type ∧
    (annotateSym M s).order = s.order ∧ (annotateSym M s).dims = s.dims := by
  refine ⟨?_, fun p hp => ?_, ?_⟩
  · rw [mem_prefixes_annotateSym, hM, and_iff_right rfl, and_iff_right hs]
  · rw [mem_prefixes_annotateSym, or_iff_left fun h => hp h.1]
  · unfold annotateSym
    split <;> exact ⟨rfl, rfl, rfl, rfl⟩

example : UnderDer false
    (.mk "Expression" "der" false [.mk "Expression" "*" false [.mk "ComponentRef" "x" false []]]) "x" :=
  .child (List.mem_singleton.mpr rfl) (.child (List.mem_singleton.mpr rfl) (.here rfl rfl rfl))

/-- `annotate_states` raises (AssertionError) exactly when a reference with a child part occurs
    below a `der`. -/
theorem annotate_fails_iff (syms : List Sym) (t : Node) :
    annotate syms t = none ↔ ChildRefUnderDer false t := by
  rw [annotate_eq, ← bad_iff]
  split
  · next h => exact iff_of_true rfl h
  · next h => exact iff_of_false nofun h

example : ChildRefUnderDer false
    (.mk "Expression" "der" false [.mk "ComponentRef" "a" true []]) :=
  .child (List.mem_singleton.mpr rfl) (.here rfl rfl rfl)

/-- The delay inputs come first in `inputs`; the seven category lists together
    are a permutation of the names of the non-empty symbols: every flat elementary variable is
    in the lists exactly as often as it is declared. -/
theorem partition (nd : Nat) (syms : List Sym) (l : Lists) (h : exitClass nd syms = some l) :
    l.inputs.take nd = (List.range nd).map delayName ∧
    (l.categories nd).Perm (names (syms.filter (fun s => !s.isEmpty))) := by
  obtain rfl := exitClass_eq_some h
  refine ⟨take_delays, ?_⟩
  have h1 := (cats_perm (sortSyms syms)).map (·.name)
  have h2 := ((sortSyms_perm syms).filter (fun s => !s.isEmpty)).map (·.name)
  refine List.Perm.trans ?_ h2
  simp only [Lists.categories, listsOf, drop_delays]
  simpa only [names, List.map_append] using h1

/-- **exactly one category.** With distinct symbol names (they are dictionary keys) no name
    occurs twice in the category lists: each variable is in exactly one list, exactly once. -/
theorem exactly_one (nd : Nat) (syms : List Sym) (l : Lists) (h : exitClass nd syms = some l)
    (hn : (names syms).Nodup) : (l.categories nd).Nodup := by
  have hp := (partition nd syms l h).2
  rw [hp.nodup_iff]
  exact List.Nodup.sublist (List.Sublist.map _ List.filter_sublist) hn

example : ∃ l, exitClass 0 [⟨"p", ["parameter", "input"], "Real", 0, []⟩, ⟨"x", ["state"], "Real", 1, []⟩,
      ⟨"e", [], "Real", 2, [0]⟩] = some l ∧
    (names [⟨"p", ["parameter", "input"], "Real", 0, []⟩, ⟨"x", ["state"], "Real", 1, []⟩, ⟨"e", [], "Real", 2, [0]⟩]).Nodup :=
  (exitClass_isSome 0 (by decide +kernel)).imp fun _ h => ⟨h, by decide +kernel⟩

/-- Membership in each list is decided by the first matching test of
    `constant`, `parameter`, `input`, `state` (else algebraic), String-typed constants and
    parameters going to the string lists; only non-empty symbols are listed. -/
theorem precedence (nd : Nat) (syms : List Sym) (l : Lists) (h : exitClass nd syms = some l) (n : String) :
    (n ∈ l.constants ↔ ∃ s ∈ syms, s.name = n ∧ s.isEmpty = false ∧ "constant" ∈ s.prefixes ∧ s.isString = false) ∧
    (n ∈ l.stringConstants ↔ ∃ s ∈ syms, s.name = n ∧ s.isEmpty = false ∧ "constant" ∈ s.prefixes ∧ s.isString = true) ∧
    (n ∈ l.parameters ↔ ∃ s ∈ syms, s.name = n ∧ s.isEmpty = false ∧ "constant" ∉ s.prefixes ∧
        "parameter" ∈ s.prefixes ∧ s.isString = false) ∧
    (n ∈ l.stringParameters ↔ ∃ s ∈ syms, s.name = n ∧ s.isEmpty = false ∧ "constant" ∉ s.prefixes ∧
        "parameter" ∈ s.prefixes ∧ s.isString = true) ∧
    (n ∈ l.inputs.drop nd ↔ ∃ s ∈ syms, s.name = n ∧ s.isEmpty = false ∧ "constant" ∉ s.prefixes ∧
        "parameter" ∉ s.prefixes ∧ "input" ∈ s.prefixes) ∧
    (n ∈ l.states ↔ ∃ s ∈ syms, s.name = n ∧ s.isEmpty = false ∧ "constant" ∉ s.prefixes ∧
        "parameter" ∉ s.prefixes ∧ "input" ∉ s.prefixes ∧ "state" ∈ s.prefixes) ∧
    (n ∈ l.algStates ↔ ∃ s ∈ syms, s.name = n ∧ s.isEmpty = false ∧ "constant" ∉ s.prefixes ∧
        "parameter" ∉ s.prefixes ∧ "input" ∉ s.prefixes ∧ "state" ∉ s.prefixes) := by
  obtain rfl := exitClass_eq_some h
  simp only [listsOf, drop_delays, mem_names_pick_filter, mem_names_pick, Sym.cat, catOf_cases,
    Bool.not_eq_true', and_assoc, and_self]

example : ∃ l, exitClass 0 [⟨"u", ["input", "state"], "Real", 0, []⟩, ⟨"c", ["parameter", "constant"], "Real", 1, []⟩]
    = some l ∧ "u" ∈ l.inputs.drop 0 ∧ "c" ∈ l.constants := by
  refine (exitClass_isSome 0 (by decide +kernel)).imp fun l h => ⟨h, ?_, ?_⟩
  · exact (precedence _ _ _ h "u").2.2.2.2.1.mpr ⟨_, List.mem_cons_self, rfl, by decide +kernel⟩
  · exact (precedence _ _ _ h "c").1.mpr ⟨_, List.mem_cons_of_mem _ List.mem_cons_self, rfl, by decide +kernel⟩

/-- Every list is a subsequence of the names of the symbols sorted by
    declaration order; that sorted list is ordered, is a permutation of the symbols, and the
    sort is stable (two symbols already in order keep their relative position). -/
theorem order_preserved (nd : Nat) (syms : List Sym) (l : Lists) (h : exitClass nd syms = some l) :
    l.constants.Sublist (names (sortSyms syms)) ∧ l.stringConstants.Sublist (names (sortSyms syms)) ∧
    l.parameters.Sublist (names (sortSyms syms)) ∧ l.stringParameters.Sublist (names (sortSyms syms)) ∧
    (l.inputs.drop nd).Sublist (names (sortSyms syms)) ∧ l.states.Sublist (names (sortSyms syms)) ∧
    l.algStates.Sublist (names (sortSyms syms)) ∧
    (sortSyms syms).Pairwise (fun a b => a.order ≤ b.order) ∧ (sortSyms syms).Perm syms ∧
    (∀ a b, a.order ≤ b.order → [a, b].Sublist syms → [a, b].Sublist (sortSyms syms)) := by
  obtain rfl := exitClass_eq_some h
  have hf := names_pick_filter_sublist (sortSyms syms)
  have hp := names_pick_sublist (sortSyms syms)
  exact ⟨hf _ _, hf _ _, hf _ _, hf _ _, by rw [listsOf, drop_delays]; exact hp _, hp _, hp _,
    sortSyms_sorted syms, sortSyms_perm syms, fun a b hab hs =>
      List.pair_sublist_mergeSort orderLe_trans orderLe_total (decide_eq_true hab) hs⟩

example : ∃ l, exitClass 0 [⟨"b", [], "Real", 2, []⟩, ⟨"a", [], "Real", 1, []⟩, ⟨"b2", [], "Real", 2, []⟩] = some l :=
  exitClass_isSome _ (by decide +kernel)

/-- `der_states` is `states` with every name wrapped in
    `der(...)`: same length, same order, and different states have different derivative
    variables. -/
theorem one_derivative_per_state (nd : Nat) (syms : List Sym) (l : Lists) (h : exitClass nd syms = some l) :
    l.derStates = l.states.map derName ∧ l.derStates.length = l.states.length ∧
    Function.Injective derName := by
  obtain rfl := exitClass_eq_some h
  exact ⟨rfl, List.length_map _, derName_injective⟩

example : (∃ l, exitClass 0 [⟨"x", ["state"], "Real", 0, []⟩, ⟨"a.y", ["output", "state"], "Real", 1, [2]⟩] = some l) ∧
    derName "a.y" = "der(a.y)" := ⟨exitClass_isSome _ (by decide +kernel), by decide +kernel⟩

/-- `outputs` names exactly the non-empty output-prefixed symbols classified
    as state or algebraic, states first, each group in declaration order. -/
theorem outputs_exact (nd : Nat) (syms : List Sym) (l : Lists) (h : exitClass nd syms = some l) (n : String) :
    (n ∈ l.outputs ↔ ∃ s ∈ syms, s.name = n ∧ s.isEmpty = false ∧ "output" ∈ s.prefixes ∧
        (s.cat = .state ∨ s.cat = .alg)) ∧
    l.outputs.Sublist (l.states ++ l.algStates) := by
  obtain rfl := exitClass_eq_some h
  refine ⟨mem_names_outputSyms, ?_⟩
  simp only [listsOf, names, outputSyms, ← List.map_append]
  exact List.Sublist.map _ List.filter_sublist

example : ∃ l, exitClass 0 [⟨"y", ["output"], "Real", 0, []⟩, ⟨"x", ["output", "state"], "Real", 1, []⟩,
      ⟨"p", ["parameter", "output"], "Real", 2, []⟩] = some l ∧ "x" ∈ l.outputs ∧ "p" ∉ l.outputs := by
  refine (exitClass_isSome 0 (by decide +kernel)).imp fun l h => ⟨h, ?_, ?_⟩
  · exact (outputs_exact _ _ _ h "x").1.mpr ⟨_, List.mem_cons_of_mem _ List.mem_cons_self, rfl, by decide +kernel⟩
  · rw [(outputs_exact _ _ _ h "p").1]
    decide +kernel

/-- The class exit raises (AttributeError) exactly when a non-empty String-typed symbol that is
    classified as state or algebraic carries the `output` prefix (open finding C10-F1). -/
theorem attribute_error_iff (nd : Nat) (syms : List Sym) :
    exitClass nd syms = none ↔ ∃ s ∈ syms, s.isString = true ∧ s.isEmpty = false ∧ "output" ∈ s.prefixes ∧
        (s.cat = .state ∨ s.cat = .alg) := exitClass_none_iff

example : exitClass 0 [⟨"s", ["output"], "String", 0, []⟩] = none :=
  (attribute_error_iff 0 _).mpr (by decide +kernel)

/-- **state iff differentiated (end to end).** In the model the whole pipeline produces, a name
    is a state iff it belongs to a non-empty symbol that is neither constant, parameter nor
    input and that either was declared with `"state"` or is referenced below a `der` somewhere
    in the class; and `inputs` starts with one fresh symbol per `delay` call. -/
theorem states_iff_differentiated (syms : List Sym) (t : Node) (l : Lists)
    (h : classify syms t = .ok l) (n : String) :
    (n ∈ l.states ↔ ∃ s ∈ syms, s.name = n ∧ s.isEmpty = false ∧ "constant" ∉ s.prefixes ∧
        "parameter" ∉ s.prefixes ∧ "input" ∉ s.prefixes ∧
        ("state" ∈ s.prefixes ∨ UnderDer false t s.name)) ∧
    l.inputs.take (countDelays t) = (List.range (countDelays t)).map delayName := by
  obtain ⟨syms', ha, he⟩ := classify_eq_ok_iff.1 h
  obtain ⟨M, rfl, hM⟩ := der_found_anywhere syms syms' t ha
  refine ⟨?_, (partition _ _ _ he).1⟩
  rw [(precedence _ _ _ he n).2.2.2.2.2.1, exists_mem_map]
  -- symbol by symbol: annotation leaves everything but the `"state"` prefix alone
  refine exists_congr fun s => and_congr_right fun hs => ?_
  obtain ⟨a1, a2, a3, _, _, a6⟩ := annotate_state_iff M _ t hM s (List.mem_map_of_mem hs)
  rw [a3, Sym.isEmpty, a6, a2 _ (by simp), a2 _ (by simp), a2 _ (by simp), a1]
  rfl

example : ∃ l, classify [⟨"x", [], "Real", 0, []⟩, ⟨"u", ["input"], "Real", 1, []⟩]
    (.mk "Equation" "" false [.mk "Expression" "der" false
        [.mk "Expression" "*" false [.mk "ComponentRef" "x" false [], .mk "ComponentRef" "u" false []]]]) = .ok l :=
  classify_isOk _ [⟨"x", ["state"], "Real", 0, []⟩, ⟨"u", ["input", "state"], "Real", 1, []⟩] _ (by decide +kernel) (by decide +kernel)

/-- For a symbol declared in a nested instance (non-empty instance
    path) with each of `input` / `output` written at most once (all the grammar allows), the flat
    symbol carries neither — whatever the kind of its type: elementary or a user-defined type
    derived from one (`type Volt = Real(...)`).  Every other prefix (`parameter`, `constant`,
    `discrete`, …) is kept, and a symbol of the flattened class itself keeps all its prefixes. -/
theorem nested_io_stripped (inst : String) (kind : TypeKind) (p : List String)
    (hi : p.count "input" ≤ 1) (ho : p.count "output" ≤ 1) :
    (inst ≠ "" → "input" ∉ flatPrefixes inst kind p ∧ "output" ∉ flatPrefixes inst kind p ∧
        ∀ x, x ≠ "input" → x ≠ "output" → (x ∈ flatPrefixes inst kind p ↔ x ∈ p)) ∧
    (inst = "" → flatPrefixes inst kind p = p) := by
  constructor
  · intro h
    rw [flatPrefixes, if_neg h]
    exact ⟨input_not_mem_stripNested hi, output_not_mem_stripNested ho, mem_stripNested_of_ne p⟩
  · intro h
    rw [flatPrefixes, if_pos h]

example : flatPrefixes "c." .derived ["parameter", "input"] = ["parameter"] ∧
    flatPrefixes "" .derived ["input"] = ["input"] ∧ flatPrefixes "a.b." .elementary ["output"] = [] := by decide +kernel

/-- In the generated model a name is listed in `inputs`
    (beyond the delay inputs) or in `outputs` only if some flat symbol of that name still carries
    the prefix; so, with `nested_io_stripped`, a variable declared `input`/`output` inside a
    component instance — of an elementary or of a derived type — is classified by its remaining
    prefixes (parameter, constant, differentiated, algebraic) and never as a top-level input or an
    output. -/
theorem input_output_only_at_top_level (nd : Nat) (syms : List Sym) (l : Lists) (h : exitClass nd syms = some l)
    (n : String) :
    ((∀ s ∈ syms, s.name = n → "input" ∉ s.prefixes) → n ∉ l.inputs.drop nd) ∧
    ((∀ s ∈ syms, s.name = n → "output" ∉ s.prefixes) → n ∉ l.outputs) := by
  constructor
  · intro hn hm
    obtain ⟨s, hs, hname, _, _, _, hin⟩ := (precedence nd syms l h n).2.2.2.2.1.mp hm
    exact hn s hs hname hin
  · intro hn hm
    obtain ⟨s, hs, hname, _, hout, _⟩ := (outputs_exact nd syms l h n).1.mp hm
    exact hn s hs hname hout

example : ∃ l, exitClass 0 [flatSym "c." .derived ⟨"u", ["input"], "Real", 0, []⟩,
      flatSym "" .elementary ⟨"t", ["input"], "Real", 1, []⟩] = some l :=
  exitClass_isSome _ (by decide +kernel)

/-! ## Tie to the sources: the category table observed on the code under test

`Generated/ClassifyTable.lean` is rewritten at the start of every C10 run from the behaviour of the real
`Generator.exitClass` on one probe class (one variable per subset of the four category-deciding prefixes,
in both spellings).  `source_table_agrees` is the proof obligation over it; `catOf_keys` lifts the finite
table to every prefix list, so `current_code_category` speaks about arbitrary prefix lists. -/

/-- The prefixes the `if/elif` chain looks at. -/
def catKeys : List String := ["constant", "parameter", "input", "state"]

/-- The probe prefix lists, indexed by bit mask over `catKeys`, then the reversed spellings. -/
def probeLists : List (List String) :=
  let fw := (List.range 16).map (fun m => (List.range 4).filterMap (fun j =>
    if m / 2 ^ j % 2 = 1 then catKeys[j]? else none))
  fw ++ fw.map List.reverse

/-- The key prefixes a prefix list carries, in `catKeys` order (what the category may depend on). -/
def keySet (p : List String) : List String := catKeys.filter (· ∈ p)

/-- The category depends only on which of the four key prefixes occur — not on order,
    multiplicity or any other prefix. -/
theorem catOf_keys (p : List String) : catOf p = catOf (keySet p) := by
  have key : ∀ x ∈ catKeys, (x ∈ p ↔ x ∈ keySet p) := fun x hx => by
    rw [keySet, List.mem_filter, decide_eq_true_eq, and_iff_right hx]
  rw [catKeys] at key
  simp only [List.forall_mem_cons] at key
  obtain ⟨hconst, hparam, hinput, hstate, _⟩ := key
  exact catOf_congr hconst hparam hinput hstate

/-- Every key set is one of the (forward) probe lists. -/
theorem keySet_mem_probeLists (p : List String) : keySet p ∈ probeLists := by
  rw [keySet, catKeys, filter_cons_eq_append, filter_cons_eq_append, filter_cons_eq_append,
    filter_cons_eq_append, List.filter_nil]
  -- the outcome depends on four booleans only; it is the probe whose mask has them as its bits
  generalize decide ("constant" ∈ p) = b1
  generalize decide ("parameter" ∈ p) = b2
  generalize decide ("input" ∈ p) = b3
  generalize decide ("state" ∈ p) = b4
  refine List.mem_of_getElem? (i := b1.toNat + 2 * b2.toNat + 4 * b3.toNat + 8 * b4.toNat) ?_
  revert b1 b2 b3 b4
  decide +kernel

/-- The probes the translator ran are exactly the probe lists of the model (nothing skipped or added). -/
theorem source_table_probes : Generated.ClassifyTable.observed.map (·.1) = probeLists := by decide +kernel

/-- Proof obligation over the generated file: on every probe the code under test
    placed the variable in exactly the list `catOf` names. -/
theorem source_table_agrees : ∀ e ∈ Generated.ClassifyTable.observed, e.2 = some (catOf e.1) := by decide +kernel

/-- For every prefix list `p` whatsoever, the table observed on the code under
    test has an entry for the key set of `p`, and the category observed there is `catOf p`. -/
theorem current_code_category (p : List String) :
    ∃ e ∈ Generated.ClassifyTable.observed, e.1 = keySet p ∧ e.2 = some (catOf p) := by
  have hm : keySet p ∈ Generated.ClassifyTable.observed.map (·.1) := by
    rw [source_table_probes]
    exact keySet_mem_probeLists p
  obtain ⟨e, he, h1⟩ := List.mem_map.mp hm
  exact ⟨e, he, h1, by rw [source_table_agrees e he, h1, ← catOf_keys]⟩

example : catOf ["output", "state", "discrete", "parameter"] = .param := by decide +kernel

end PymocaVerif.Classify
