import PymocaVerif.Lemmas.PyPrint
/-!
# C24 — the SymPy backend emits code with the flat model's meaning

Property theorems only (helper lemmas: `Lemmas/PyGrammar.lean`, `Lemmas/PyPrint.lean`).
Model: `Model/PyGrammar.lean` (Python expression grammar, printers `prFix` = current tree, i.e. with
fix C24-1, `prCur` = the printer before it) and `Model/PyPrint.lean` (mangling, classification
`classifyFix` = current tree, `classify` = before fix C24-4, evaluator).  The harness detects on every
run which variant the real code implements and compares it with that one.
"Fix C24-n" is `proposed_fixes/C24-n.diff`; the findings are numbered on their own: C24-1 = commit
36439d5 answers finding C24-F1, C24-4 = commit b72b750 answers finding C24-F5.
All statements are for arbitrary expressions / symbol lists / builtin lists — no size bound.
-/
namespace PymocaVerif.PyPrint
open PymocaVerif.PyGrammar

private def nm (s : String) : Name := s.toList
private def v (s : String) : E := E.atom (Atom.name (nm s))

/-- With the parenthesising printer (the current tree, fix C24-1) the text of every element of `self.eqs`, read by
    the Python grammar, is exactly lhs − rhs of the flat equation (with mangled names): no
    operator is regrouped, whatever the nesting. -/
theorem py_parse_print (B : List Name) (l r : E) :
    pyParse (eqToks Variant.fix B l r) = some (eqTree (toPy B l) (toPy B r)) :=
  parse_printed pyTbl pyTbl_wf
    (printed_prEq (printed_prFix pyTbl_lvl_pos pyTbl_plvl_pos _ 1 (.inr (Nat.le_refl 1)))
      (printed_prFix pyTbl_lvl_pos pyTbl_plvl_pos _ 0 (.inr (Nat.zero_le 1))))

example : pyParse (eqToks Variant.fix [] (v "y")
    (E.bin 3 (E.bin 2 (E.pre 1 (E.bin 1 (v "x") (v "u"))) (v "p")) (E.bin 0 (v "c") (E.atom (Atom.num (nm "1"))))))
    = some (eqTree (v "y")
        (E.bin 3 (E.bin 2 (E.pre 1 (E.bin 1 (v "x") (v "u"))) (v "p")) (E.bin 0 (v "c") (E.atom (Atom.num (nm "1")))))) := by
  decide +kernel

/-- … and it evaluates like the flat equation: for every algebra of values and every Modelica
    environment, the parsed Python text evaluated in the induced Python environment gives the
    value of lhs − rhs, provided the mangling is injective on the variables in use. -/
theorem py_parse_print_meaning {α : Type} (A : Alg α) (B : List Name) (vars : List Name) (l r : E)
    (hl : ∀ n ∈ names l, n ∈ vars) (hr : ∀ n ∈ names r, n ∈ vars)
    (hinj : ∀ a ∈ vars, ∀ b ∈ vars, mangleRef B a = mangleRef B b → a = b) (ρ : Env α) :
    ∃ e', pyParse (eqToks Variant.fix B l r) = some e' ∧
      eval A (pull (mangleRef B) vars ρ) e' = eval A ρ (eqTree l r) := by
  refine ⟨_, py_parse_print B l r, ?_⟩
  -- `toPy` renames, and `eqTree`, `names` commute with renaming by computation
  refine eval_rename A ρ _ (mangleRef B) (eqTree l r) fun n hn => pull_var ρ ?_ hinj
  exact (List.mem_append.1 hn).elim (hl n) (hr n)

example : (∀ a ∈ [nm "x", nm "a.b"], ∀ b ∈ [nm "x", nm "a.b"],
    mangleRef [] a = mangleRef [] b → a = b) := by decide +kernel

/-- The printer before fix C24-1 pasted operands without parentheses.  It is right exactly on the
    expressions in natural precedence form (`NoParen`: every operand already binds at least as
    tightly as its context).  PARTIAL: for the other expressions the statement is false, see
    `cur_printer_regroups`. -/
theorem py_parse_print_cur_partial (B : List Name) (l r : E)
    (hl : NoParen pyTbl 1 l) (hr : NoParen pyTbl 0 r) :
    pyParse (eqToks Variant.cur B l r) = some (eqTree (toPy B l) (toPy B r)) :=
  parse_printed pyTbl pyTbl_wf
    (printed_prEq (printed_prCur pyTbl _ 1 ((noParen_rename pyTbl _ l 1).mpr hl))
      (printed_prCur pyTbl _ 0 ((noParen_rename pyTbl _ r 0).mpr hr)))

example : NoParen pyTbl 1 (E.der (v "x")) ∧
    NoParen pyTbl 0 (E.bin 1 (E.bin 2 (E.pre 1 (v "x")) (E.bin 4 (v "p") (E.pre 1 (v "c")))) (E.call (nm "sin") (v "time"))) := by
  simp [NoParen, pyTbl, v]

/-- Counterexample for the printer before fix C24-1: `y = (a - b) * c` is written `y - (a - b * c)`,
    which Python reads as `y - (a - (b * c))`; at a = 1, b = 2, c = 3, y = 0 the values differ. -/
theorem cur_printer_regroups :
    ∃ (l r e' : E) (ρ : Env Int),
      pyParse (eqToks Variant.cur [] l r) = some e' ∧
      eval intAlg (pull (mangleRef []) (names l ++ names r) ρ) e' ≠ eval intAlg ρ (eqTree l r) := by
  refine ⟨v "y", E.bin 2 (E.bin 1 (v "a") (v "b")) (v "c"),
    eqTree (v "y") (E.bin 1 (v "a") (E.bin 2 (v "b") (v "c"))),
    ⟨fun n => if n = nm "a" then some 1 else if n = nm "b" then some 2 else if n = nm "c" then some 3 else some 0,
     fun _ => none⟩, ?_⟩
  decide +kernel

/-- Number literals are written through unchanged: the literal texts of the printed equation are,
    in order, the literal texts of the flat lhs and rhs (for both printer variants and every builtin
    list) — mangling, parenthesising and operators never touch, drop, duplicate or reorder a literal.
    (That a literal text `str(value)` denotes `value` again is CPython's float repr round trip; it is
    outside the model and compared exactly on every run.) -/
theorem literals_pass_through (v : Variant) (B : List Name) (l r : E) :
    tokLits (eqToks v B l r) = lits l ++ lits r := by
  have hv : ∀ e, tokLits (printer v e) = lits e := by
    cases v
    · exact tokLits_prCur
    · exact tokLits_prFix
  rw [eqToks, tokLits_prEq hv, toPy, toPy, lits_rename, lits_rename]

example : tokLits (eqToks Variant.fix [] (v "y")
    (E.bin 0 (E.bin 2 (E.atom (Atom.num (nm "1234567.5"))) (v "x")) (E.atom (Atom.num (nm "100000.5")))))
    = [nm "1234567.5", nm "100000.5"] := by decide +kernel

/-- Distinct flat names get distinct Python identifiers when both are clean (no `__`, no `_.`)
    and neither mangled name is a member of the builtin list followed by underscores that equals
    the other.  Holds for every builtin list. -/
theorem mangle_injective_on (B : List Name) (a b : Name) (ha : Clean a) (hb : Clean b)
    (h1 : ¬ StemOf B (replDots a) (replDots b)) (h2 : ¬ StemOf B (replDots b) (replDots a))
    (h : mangleRef B a = mangleRef B b) : a = b :=
  replDots_injective ha hb (avoid_injective h1 h2 (mangleSym_eq_of_mangleRef_eq h))

example : Clean (nm "body.v_x") ∧ Clean (nm "copy") ∧
    ¬ StemOf [nm "copy"] (replDots (nm "body.v_x")) (replDots (nm "copy")) := by
  -- one evaluation for the three decidable facts: each separate one would convert the strings again
  have h : cleanB (nm "body.v_x") = true ∧ cleanB (nm "copy") = true ∧
      replDots (nm "body.v_x") ∉ [nm "copy"] := by decide +kernel
  obtain ⟨h1, h2, h3⟩ := h
  rw [← cleanB_iff, ← cleanB_iff]
  exact ⟨h1, h2, fun s => h3 s.1⟩

/-- The same for declared symbols (`exitSymbol`). -/
theorem mangle_sym_injective_on (B : List Name) (a b : Name) (ha : Clean a) (hb : Clean b)
    (h1 : ¬ StemOf B (replDots a) (replDots b)) (h2 : ¬ StemOf B (replDots b) (replDots a))
    (h : mangleSym B a = mangleSym B b) : a = b :=
  replDots_injective ha hb (avoid_injective h1 h2 h)

example : mangleSym [nm "copy"] (nm "copy") = nm "copy_" := by decide +kernel

/-- The side condition `Clean` is needed: a dotted name and the same name written with `__`
    collide, for every builtin list and every prefix/suffix. -/
theorem mangle_collision_dotted (B : List Name) (x y : Name) :
    mangleSym B (x ++ '.' :: y) = mangleSym B (x ++ '_' :: '_' :: y) ∧
    x ++ '.' :: y ≠ x ++ '_' :: '_' :: y := by
  refine ⟨by simp [mangleSym, replDots_append, replDots], fun h => ?_⟩
  simpa using List.append_cancel_left h

example : mangleSym [] (nm "a.b") = mangleSym [] (nm "a__b") := by decide +kernel

/-- … and so do `a_.b` and `a._b` (an underscore in front of the dot). -/
theorem mangle_collision_underscore_dot (B : List Name) :
    mangleSym B (nm "a_.b") = mangleSym B (nm "a._b") ∧ nm "a_.b" ≠ nm "a._b" := by
  have h : replDots (nm "a_.b") = replDots (nm "a._b") ∧ nm "a_.b" ≠ nm "a._b" := by decide +kernel
  exact ⟨by rw [mangleSym, mangleSym, h.1], h.2⟩

/-- The side condition on the builtin list is needed: a member of the list and the same name
    followed by an underscore collide. -/
theorem mangle_collision_builtin (B : List Name) (n : Name) (hdot : '.' ∉ n) (hn : n ∈ B) :
    mangleSym B n = mangleSym B (n ++ ['_']) ∧ n ≠ n ++ ['_'] := by
  refine ⟨?_, fun h => by simpa using congrArg List.length h⟩
  have hdot' : '.' ∉ n ++ ['_'] := by simp [hdot]
  rw [mangleSym, mangleSym, replDots_of_no_dot hdot, replDots_of_no_dot hdot']
  -- the loop on `n` takes `j ≥ 1` rounds; started one underscore further on it takes `j - 1`
  obtain ⟨j, hj, hin, hout⟩ := avoid_spec B n
  cases j with
  | zero =>
    rw [hj] at hout
    exact absurd (by simpa using hn) hout
  | succ j =>
    rw [hj, ← append_us_succ] at hout ⊢
    exact (avoid_unique (fun i hi => append_us_succ n i ▸ hin (i + 1) (Nat.succ_lt_succ hi)) hout).symm

example : mangleSym [nm "copy"] (nm "copy") = mangleSym [nm "copy"] (nm "copy_") := by
  decide +kernel

/-- The avoidance loop terminates outside the builtin list, for every list and name. -/
theorem mangle_avoids_builtins (B : List Name) (n : Name) : mangleSym B n ∉ B :=
  avoid_not_mem B (replDots n)

example : mangleSym [nm "pop", nm "pop_"] (nm "pop") = nm "pop__" := by decide +kernel

/-- The display name handed to sympy (`|replace('__', '.')`) is the Modelica name itself for a
    clean name that does not hit the builtin list. -/
theorem shown_name_is_modelica_name (B : List Name) (n : Name) (hc : Clean n)
    (hB : replDots n ∉ B) : unrepl (mangleSym B n) = n := by
  simp only [mangleSym, avoid_of_not_mem hB]
  exact unrepl_replDots n hc

example : unrepl (mangleSym [nm "copy"] (nm "body.v_x")) = nm "body.v_x" := by decide +kernel

/-- The state / constant / parameter / input / output lists are exactly the symbols carrying that
    prefix, in declaration order, for every flat symbol list without repeated prefixes. -/
theorem classification_matches (syms : List Sym) (h : ∀ s ∈ syms, s.prefixes.Nodup) :
    ((classify syms).x = specX syms ∧ (classify syms).c = specC syms ∧
     (classify syms).p = specP syms ∧ (classify syms).u = specU syms ∧
     (classify syms).y = specY syms) ∧
    ((classifyFix syms).x = specX syms ∧ (classifyFix syms).c = specC syms ∧
     (classifyFix syms).p = specP syms ∧ (classifyFix syms).u = specU syms ∧
     (classifyFix syms).y = specY syms) := by
  simp only [classify, classifyFix, specX, specC, specP, specU, specY, pick_eq_filter h, and_self]

example : (classify [⟨nm "x", ["output", "state"]⟩, ⟨nm "p", ["parameter"]⟩, ⟨nm "w", []⟩]).x
    = [⟨nm "x", ["output", "state"]⟩] := by decide +kernel

/-- The variable list is exactly the set of symbols that are neither state nor constant nor
    parameter nor input (plain variables and outputs that are not states), for regular symbols with
    distinct names. -/
theorem variables_match (syms : List Sym) (hreg : ∀ s ∈ syms, Regular s)
    (hnames : (syms.map (·.name)).Nodup) (s : Sym) :
    s ∈ (classify syms).v ↔ s ∈ syms ∧ isVar s = true :=
  mem_vlist_iff (fun s hs => (hreg s hs).weak.1) hnames (fun s hs => (hreg s hs).weak.2)
    (fun s hs => (isEmpty_eq_not_classified (hreg s hs)).trans (Bool.not_or _ _)) s

example : Regular ⟨nm "y", ["output"]⟩ ∧ isVar ⟨nm "y", ["output"]⟩ = true := by
  unfold Regular
  decide +kernel

/-- In the current tree (fix C24-4) the same holds without restricting the prefixes to the five class
    prefixes: `discrete` (or any other) prefix no longer makes a variable disappear. -/
theorem variables_match_with_fix (syms : List Sym) (hreg : ∀ s ∈ syms, WeakRegular s)
    (hnames : (syms.map (·.name)).Nodup) (s : Sym) :
    s ∈ (classifyFix syms).v ↔ s ∈ syms ∧ isVar s = true :=
  mem_vlist_iff (fun s hs => (hreg s hs).1) hnames (fun s hs => (hreg s hs).2)
    (fun _ _ => Bool.not_or _ _) s

example : WeakRegular ⟨nm "d", ["discrete"]⟩ ∧
    (⟨nm "d", ["discrete"]⟩ : Sym) ∈ (classifyFix [⟨nm "d", ["discrete"]⟩, ⟨nm "p", ["parameter"]⟩]).v := by
  unfold WeakRegular
  decide +kernel

/-- Before fix C24-4 the classification lost variables outside the regular symbols: a symbol whose
    only prefix is `discrete` appeared in no list at all. -/
theorem discrete_symbol_in_no_list (n : Name) :
    let L := classify [⟨n, ["discrete"]⟩]
    L.x = [] ∧ L.v = [] ∧ L.c = [] ∧ L.p = [] ∧ L.u = [] ∧ L.y = [] := by
  simp [classify, pick]

end PymocaVerif.PyPrint
