import PymocaVerif.Lemmas.ObjGraphRequests
import PymocaVerif.Generated.CopyFlags
/-!
# C05 — flattening never changes what later flattening produces

Model: `PymocaVerif.Model.ObjGraph` (heap of AST objects, `copy.deepcopy` with memo and pymoca's two
hooks, `find_class(copy)`, `tree.flatten` as: obtain the requested class / the classes it looks up /
the symbols it reaches by class path — each through a lookup that copies or not — then write
*anything* to every object reachable through `own` references from what was obtained).

A request reads the views (unfoldings to any depth `k`, identities erased) of what it obtained; any
flat model, CasADi model or CLI outcome the real code computes is a function of these.

Hypotheses on the parsed tree (`Region`, `TreeShaped`, `ReqOk`) are the shape of a tree as the
parser leaves it: references stay inside the tree, no per-instance `__deepcopy__`, a class is held
by its parent only, nothing below a class holds a reference to that class's parent.  The harness
checks them on snapshots of the real trees (`wfCheck`, `treeCheck`, `rankCheck` through the driver).
-/
namespace PymocaVerif.C05
open PymocaVerif.ObjGraph

abbrev current : Cfg := PymocaVerif.Generated.CopyFlags.current

/-- Obligation over the flags extracted from the code under test: memo test by id, hooks leave no
    instance attribute, every lookup on the flatten path copies. -/
theorem flags_ok : current.Good ∧ current.AllCopy :=
  ⟨⟨rfl, rfl, rfl⟩, ⟨rfl, rfl, rfl⟩⟩

/-- **Frame.**  With copying lookups a flatten request leaves every object that existed before it
    exactly as it was — for *every* write the flattening may perform on what it obtained. -/
theorem frame (cfg : Cfg) (hg : cfg.Good) (hall : cfg.AllCopy) {H : Heap} {R : Nat → Prop}
    (hR : Region H R) (hts : TreeShaped H R) {root : Nat} (hroot : R root) {r : Req}
    (hok : ReqOk H R root r) (junk : Nat → Obj → Obj) {H' : Heap}
    (h : flattenImpl cfg junk H root r = some H') :
    ∀ o, o < H.length → H'[o]? = H[o]? :=
  fun _ ho => prefix_get (flattenImpl_frame hg hall hR hts hroot hok (List.prefix_refl H) junk h) ho

/-- **`find_class(copy=True)` hands out a private copy**: it terminates, the heap only grows, the
    copy unfolds like the class that was looked up, and everything reachable from the copy through
    `own` references (what flattening writes to) is new. -/
theorem lookup_copy_is_private (cfg : Cfg) (hg : cfg.Good) {H : Heap} {R : Nat → Prop}
    (hR : Region H R) (hts : TreeShaped H R) {c : Nat} (hc : R c) (hd : Detached H c) :
    ∃ H' y, deepcopy cfg H c = some (H', y) ∧ (∀ o, o < H.length → H'[o]? = H[o]?) ∧
      (∀ k, view H' k y = view H k c) ∧ ∀ i, OwnReach H' y i → H.length ≤ i := by
  obtain ⟨st', y, hds, out⟩ := deepcopy_spec hR hg hc
  exact ⟨st'.heap, y, deepcopy_eq_some.mpr ⟨st', hds, rfl⟩, fun _ ho => prefix_get out.ext ho,
    fun k => view_copy hR out (List.prefix_refl _) k out.res,
    fun _ hi => (copy_ownReach_fresh out hts hd (List.prefix_refl _) hi).1⟩

/-- **History independence** (induction over the history).  Any sequence of requests on one tree —
    repeating a class, different classes, a class used by an earlier one — answers every request
    with what the same request reads on the initial tree, whatever the earlier requests wrote. -/
theorem history_independent (cfg : Cfg) (hg : cfg.Good) (hall : cfg.AllCopy) {H : Heap} {R : Nat → Prop}
    (hR : Region H R) (hts : TreeShaped H R) {root : Nat} (hroot : R root) (k : Nat) :
    ∀ (reqs : List (Req × (Nat → Obj → Obj))), (∀ q ∈ reqs, ReqOk H R root q.1) →
      runSeq cfg k root H reqs = reqs.map fun q => flattenResult cfg k H root q.1 :=
  fun _ hok => runSeq_ext hg hall hR hts hroot k (List.prefix_refl H) hok

/-- **The compiler CLI is compositional.**  `tools.compiler.main` parses once and serves every `-m`
    from the same tree: each model gets the outcome it gets when it is requested alone. -/
theorem cli_compositional (cfg : Cfg) (hg : cfg.Good) (hall : cfg.AllCopy) {H : Heap} {R : Nat → Prop}
    (hR : Region H R) (hts : TreeShaped H R) {root : Nat} (hroot : R root) (k : Nat)
    (models : List (Req × (Nat → Obj → Obj))) (hok : ∀ q ∈ models, ReqOk H R root q.1) :
    runSeq cfg k root H models = (models.map fun q => runSeq cfg k root H [q]).flatten := by
  rw [history_independent cfg hg hall hR hts hroot k models hok]
  have : ∀ q ∈ models, runSeq cfg k root H [q] = [flattenResult cfg k H root q.1] := fun q hq =>
    history_independent cfg hg hall hR hts hroot k [q] fun q' hq' => List.mem_singleton.mp hq' ▸ hok q hq
  rw [List.map_congr_left this]
  exact List.map_eq_flatMap

/-- The statements above for the flags the code has now. -/
theorem history_independent_current {H : Heap} {R : Nat → Prop}
    (hR : Region H R) (hts : TreeShaped H R) {root : Nat} (hroot : R root) (k : Nat)
    (reqs : List (Req × (Nat → Obj → Obj))) (hok : ∀ q ∈ reqs, ReqOk H R root q.1) :
    runSeq current k root H reqs = reqs.map fun q => flattenResult current k H root q.1 :=
  history_independent current flags_ok.1 flags_ok.2 hR hts hroot k reqs hok

/-! ## a concrete tree: the hypotheses are satisfiable, and without copying the statement fails -/

/-- `Tree { class A { x; class B }, class C { c } }` -/
def demo : Heap :=
  [ { kind := .cls, name := "", label := "Tree", fields := [.own 1, .own 4], hook := none },
    { kind := .cls, name := "A", label := "A", fields := [.own 2, .own 3, .par 0], hook := none },
    { kind := .sym, name := "x", label := "x", fields := [], hook := none },
    { kind := .cls, name := "B", label := "B", fields := [.par 1], hook := none },
    { kind := .cls, name := "C", label := "C", fields := [.own 5, .par 0], hook := none },
    { kind := .sym, name := "c", label := "c", fields := [], hook := none } ]

def demoRank : List Nat := [0, 1, 2, 2, 1, 2]

def scribble : Nat → Obj → Obj := fun _ o => { o with label := "scribbled" }

def reqA : Req := { path := ["A"], inner := [4], consts := [5] }
def reqB : Req := { path := ["A", "B"], inner := [], consts := [] }

theorem demo_region : Region demo (fun a => a < demo.length) := region_of_wfCheck (by decide +kernel)
theorem demo_tree : TreeShaped demo (fun a => a < demo.length) := treeShaped_of_check (by decide +kernel)
theorem demo_ok (r : Req) (h : ∀ i ∈ r.inner ++ r.consts, i < demo.length) :
    ReqOk demo (fun a => a < demo.length) 0 r :=
  reqOk_of_rank (d := demoRank) (by decide +kernel) 0 r h

example : ∃ H', flattenImpl current scribble demo 0 reqA = some H' ∧
    ∀ o, o < demo.length → H'[o]? = demo[o]? := by
  have hs : (flattenImpl current scribble demo 0 reqA).isSome = true := by decide +kernel
  obtain ⟨H', h1⟩ := Option.isSome_iff_exists.mp hs
  exact ⟨H', h1, frame current flags_ok.1 flags_ok.2 demo_region demo_tree (by decide)
    (demo_ok reqA (by decide)) scribble h1⟩

example : ∃ H' y, deepcopy current demo 1 = some (H', y) ∧ ∀ i, OwnReach H' y i → demo.length ≤ i := by
  obtain ⟨H', y, h, _, _, hf⟩ := lookup_copy_is_private current flags_ok.1 demo_region demo_tree (c := 1)
    (by decide) (detached_of_rank (d := demoRank) (by decide +kernel) 1)
  exact ⟨H', y, h, hf⟩

example : runSeq current 3 0 demo [(reqA, scribble), (reqB, scribble), (reqA, scribble)] =
    [flattenResult current 3 demo 0 reqA, flattenResult current 3 demo 0 reqB, flattenResult current 3 demo 0 reqA] :=
  history_independent_current demo_region demo_tree (by decide) 3 _
    fun q hq => demo_ok q.1 (by revert q; decide)

example : runSeq current 2 0 demo [(reqB, scribble), (reqA, scribble)] =
    runSeq current 2 0 demo [(reqB, scribble)] ++ runSeq current 2 0 demo [(reqA, scribble)] := by
  have := cli_compositional current flags_ok.1 flags_ok.2 demo_region demo_tree (root := 0) (by decide) 2
    [(reqB, scribble), (reqA, scribble)]
    fun q hq => demo_ok q.1 (by revert q; decide)
  simpa using this

/-- the discipline before the fix: the class looked up by `flatten` is not copied -/
def noRootCopy : Cfg := { current with rootCopy := false }

/-- **Without the copy the statement is false**: one request for `A.B` rewrites the tree's own `B`
    (object 3), so a later request for `A` reads something else than a fresh one. -/
theorem counterexample_nocopy :
    (match flattenImpl noRootCopy scribble demo 0 reqB with
     | some H' => decide (H'[3]? ≠ demo[3]?) && decide (viewLabels H' 3 1 ≠ viewLabels demo 3 1)
     | none => false) = true := by
  decide +kernel

/-- the discipline before commit e37f466: symbols reached by a class path are not copied -/
def noConstCopy : Cfg := { current with constCopy := false }

theorem counterexample_constref :
    (match flattenImpl noConstCopy scribble demo 0 reqA with
     | some H' => decide (H'[5]? ≠ demo[5]?) && decide (H'[1]? = demo[1]?)
     | none => false) = true := by
  decide +kernel

end PymocaVerif.C05
