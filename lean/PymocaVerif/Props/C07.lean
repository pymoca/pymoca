import PymocaVerif.Lemmas.FlattenEx
import PymocaVerif.Lemmas.Flatten
import PymocaVerif.Lemmas.FlattenSpell
/-!
# C07 — hierarchical flattening instantiates every component once

Theorems about the reference semantics `PymocaVerif.Flatten` (Model/Flatten.lean), for every
resolved library, target class and fuel (no bound on depth, width or number of classes), whenever
flattening succeeds.  The flat variables and equations are compared with independent inductive
descriptions of the instance tree (`Leaf`, `InstAt`, `MemberEq`; Model/FlattenSpec.lean).  Only
`lookup_is_lexical` is about stage 1 (`Model/FlattenSrc.lean`): how type names are looked up.

Paths are lists of identifiers; the driver prints them dotted (identifiers contain no dot).
-/
namespace PymocaVerif.Flatten

/-- The flat variables are exactly the elementary leaves: a path `q` with builtin type `b`,
    dimensions `ds` and prefixes `pre` is a flat variable iff `q` leads to a leaf of the instance
    tree with that type and those accumulated dimensions whose declared prefixes, filtered for
    the depth, are `pre`. -/
theorem vars_are_leaves {fuel : Nat} {lib : Lib} {t : Path} {m : FlatModel} (h : flattenF fuel lib t = .ok m)
    (q : Path) (b : String) (ds : List Nat) (pre : List String) :
    (∃ k, Leaf lib t q k b ds ∧ pre = keepIO q.length k.prefixes) ↔
      ∃ v ∈ m.vars, v.path = q ∧ v.ty = b ∧ v.dims = ds ∧ v.prefixes = pre := by
  obtain ⟨r, ri, htop, _, rfl⟩ := flattenF_ok.mp h
  have hr := (instTop_ok.mp htop).2
  constructor
  · rintro ⟨k, hl, rfl⟩
    obtain ⟨v, hv, hp, ht, hd, hpre⟩ := inst_vars_complete hl hr
    exact ⟨finVar _ v, List.mem_map.mpr ⟨v, hv, rfl⟩, hp, ht, hd, by rw [finVar_prefixes, hpre, hp]; rfl⟩
  · rintro ⟨fv, hfv, rfl, rfl, rfl, rfl⟩
    obtain ⟨v, hv, rfl⟩ := List.mem_map.mp hfv
    obtain ⟨q, k, b, ds, hp, hl, ht, hd, hpre⟩ := (instF_var hr hv).is_leaf
    refine ⟨k, ?_, hpre⟩
    show Leaf lib t v.path k v.ty v.dims
    rw [hp, ht, hd]
    exact hl

example : flattenF 6 exLib ["M"] = .ok exFlat ∧
    ∃ k, Leaf exLib ["M"] ["lb", "u"] k "Real" [] ∧ k.prefixes = ["input"] :=
  ⟨exFlat_ok, _, .sub (k := Comp.mk "lb" (.cls ["Leaf"]) [] [] [Mod.mk ["k"] (.num 5)]) (c' := ["Leaf"])
      (.inh (b := ["Base"]) (d := exM) (m := [Mod.mk ["b", "start"] (.num 3)]) rfl (.head _)
        (.own (d := exBase) rfl (.head _))) rfl
      (elemOf_none (f := 1) (by decide +kernel))
      (.leaf (k := Comp.mk "u" (.builtin "Real") ["input"] [] []) (.own (d := exLeaf) rfl (.tail _ (.tail _ (.head _))))
        (.builtin _)), rfl⟩

/-- No instance path is the name of two flat variables. -/
theorem vars_nodup {fuel : Nat} {lib : Lib} {t : Path} {m : FlatModel} (h : flattenF fuel lib t = .ok m) :
    (m.vars.map (·.path)).Nodup := by
  obtain ⟨r, ri, htop, _, rfl⟩ := flattenF_ok.mp h
  rw [assemble_paths]
  exact inst_nodup (instTop_ok.mp htop).2

example : flattenF 6 exLib ["M"] = .ok exFlat ∧ exFlat.vars.length = 10 :=
  ⟨exFlat_ok, by rw [exFlat_eq]; rfl⟩

/-- Every flat variable is a leaf and carries the leaf's builtin type, the dimensions of the
    enclosing array components followed by its own, and its declared prefixes filtered for depth. -/
theorem leaf_data_kept {fuel : Nat} {lib : Lib} {t : Path} {m : FlatModel} (h : flattenF fuel lib t = .ok m)
    {v : FVar} (hv : v ∈ m.vars) :
    ∃ k b ds, Leaf lib t v.path k b ds ∧ v.ty = b ∧ v.dims = ds ∧ v.prefixes = keepIO v.path.length k.prefixes := by
  obtain ⟨k, hl, hp⟩ := (vars_are_leaves h v.path v.ty v.dims v.prefixes).mpr ⟨v, hv, rfl, rfl, rfl, rfl⟩
  exact ⟨k, _, _, hl, rfl, rfl, hp⟩

example : flattenF 6 exLib ["M"] = .ok exFlat ∧
    (exFlat.vars.map fun v => (v.path, v.ty, v.dims, v.prefixes))[8]? = some (["l2", "w"], "Real", [3, 2], []) :=
  ⟨exFlat_ok, by rw [exFlat_eq]; rfl⟩

/-- `input` / `output` never survive below the top level … -/
theorem io_only_top_level {fuel : Nat} {lib : Lib} {t : Path} {m : FlatModel} (h : flattenF fuel lib t = .ok m)
    {v : FVar} (hv : v ∈ m.vars) (hdeep : v.path.length ≠ 1) : "input" ∉ v.prefixes ∧ "output" ∉ v.prefixes := by
  obtain ⟨k, b, ds, _, _, _, hp⟩ := leaf_data_kept h hv
  rw [hp]
  simp [keepIO, hdeep]

example : flattenF 6 exLib ["M"] = .ok exFlat ∧
    (exFlat.vars.map fun v => (v.path, v.prefixes))[2]? = some (["lb", "u"], []) ∧
    (exFlat.vars.map fun v => (v.path, v.prefixes))[9]? = some (["y"], ["output"]) :=
  ⟨exFlat_ok, by rw [exFlat_eq]; rfl, by rw [exFlat_eq]; rfl⟩

/-- … and every other prefix (parameter, constant, discrete, flow), at every depth, and
    input/output at the top level, are exactly the declared ones. -/
theorem other_prefixes_kept {fuel : Nat} {lib : Lib} {t : Path} {m : FlatModel} (h : flattenF fuel lib t = .ok m)
    {v : FVar} (hv : v ∈ m.vars) :
    ∃ k b ds, Leaf lib t v.path k b ds ∧
      (∀ x, (x ≠ "input" ∧ x ≠ "output") ∨ v.path.length = 1 → (x ∈ v.prefixes ↔ x ∈ k.prefixes)) := by
  obtain ⟨k, b, ds, hl, _, _, hp⟩ := leaf_data_kept h hv
  refine ⟨k, b, ds, hl, ?_⟩
  intro x hx
  rw [hp]
  unfold keepIO
  split
  · rfl
  · rename_i hne
    rcases hx with hx | hx
    · simp [List.mem_filter, hx.1, hx.2]
    · exact absurd hx hne

example : flattenF 6 exLib ["M"] = .ok exFlat ∧
    (exFlat.vars.map fun v => (v.path, v.prefixes))[5]? = some (["l2", "k"], ["parameter"]) :=
  ⟨exFlat_ok, by rw [exFlat_eq]; rfl⟩

/-- Renaming of one reference written in instance `P`: it becomes the flat variable `P ++ names`
    with the subscripts of all its parts collected (and renamed by the same rule, `renSub1` /
    `renSub0`) iff that path is a flat variable; otherwise it stays as written.  The same rule holds
    for names and references inside subscripts, at both levels. -/
theorem reference_renaming (names : List Path) (P : Path) :
    (∀ parts : List (Name × List Sub1),
      (P ++ refNames parts ∈ names → rename names P (.ref parts) = .fref (P ++ refNames parts) (refSubs names P parts)) ∧
      (P ++ refNames parts ∉ names → rename names P (.ref parts) = .uref parts)) ∧
    (∀ parts : List (Name × List Sub0),
      (P ++ refNames parts ∈ names → renSub1 names P (.ref parts) = .var (P ++ refNames parts) (refSubs0 names P parts)) ∧
      (P ++ refNames parts ∉ names → renSub1 names P (.ref parts) = .uref parts)) ∧
    (∀ x : Name,
      (P ++ [x] ∈ names → renSub1 names P (.name x) = .var (P ++ [x]) [] ∧ renSub0 names P (.name x) = .var (P ++ [x])) ∧
      (P ++ [x] ∉ names → renSub1 names P (.name x) = .name x ∧ renSub0 names P (.name x) = .name x)) := by
  refine ⟨fun parts => ⟨?_, ?_⟩, fun parts => ⟨?_, ?_⟩, fun x => ⟨?_, ?_⟩⟩ <;> intro h <;>
    simp [rename, renSub1, renSub0, h]

-- `v[i + off[k]]` written in instance `a`: `i` is no variable and stays, `off` and `k` are renamed
example : rename [["a", "v"], ["a", "off"], ["a", "k"]] ["a"]
      (.ref [("v", [.add (.name "i") (.ref [("off", [.name "k"])])])]) =
    .fref ["a", "v"] [.add (.name "i") (.var ["a", "off"] [.var ["a", "k"]])] ∧
    rename [["a", "x"]] ["a"] (.ref [("time", [])]) = .uref [("time", [])] := by decide +kernel

/-- The equation list of the flat model is: the instance equations, then one `v = 0` per flow
    variable, then the binding equations; and the instance equations are exactly the equations
    (own and inherited; simple or for-loops) of every class instantiated at some instance path `q`,
    renamed at `q`. -/
theorem eqs_are_instance_eqs {fuel : Nat} {lib : Lib} {t : Path} {m : FlatModel} (h : flattenF fuel lib t = .ok m) :
    ∃ r : List Var × List IEq, instTop fuel lib t = .ok r ∧
      m.eqs = instEqs (m.vars.map (·.path)) r.2 ++ flowEqs r.1 ++ bindEqs (m.vars.map (·.path)) r.1 ∧
      ∀ fe, fe ∈ instEqs (m.vars.map (·.path)) r.2 ↔
        ∃ q c x, InstAt lib t q c ∧ MemberEq lib c x ∧ fe = renameEqn (m.vars.map (·.path)) q x := by
  obtain ⟨r, ri, htop, _, rfl⟩ := flattenF_ok.mp h
  rw [assemble_paths]
  exact ⟨r, htop, rfl, mem_instEqs_iff (instTop_ok.mp htop).2 _⟩

example : flattenF 6 exLib ["M"] = .ok exFlat ∧
    exFlat.eqs[1]? = some (.forEq "i" 1 2 [(.fref ["lb", "w"] [.add (.name "i") (.var ["lb", "n"] [])], .fref ["lb", "u"] [])]) ∧
    exFlat.eqs[4]? = some (.eq (.fref ["b"] []) (.fref ["lb", "u"] [])) :=
  ⟨exFlat_ok, by rw [exFlat_eq]; rfl, by rw [exFlat_eq]; rfl⟩

/-- Declaration equations: the binding equations of the flat model are exactly one `v = e` for every
    leaf `v` that is neither parameter nor constant and has a binding (an entry with path `[]` in
    `binds`), with `e` the winning binding renamed in its scope — whatever `e` is (the literals `0`,
    `0.0`, `false`, `""` included: having a binding is a matter of `binds`, not of the value). -/
theorem binding_equations_present (names : List Path) (vars : List Var) (fe : FEqn) :
    fe ∈ bindEqs names vars ↔
      ∃ v ∈ vars, v.isParam = false ∧ ∃ w, lookupBind v.binds [] = some w ∧
        fe = .eq (.sym v.path) (rename names w.scope w.value) := by
  simp only [bindEqs, List.mem_filterMap, Var.attr]
  constructor
  · rintro ⟨v, hv, h⟩
    split at h
    · cases h
    · obtain ⟨e, he, rfl⟩ := Option.map_eq_some_iff.mp h
      obtain ⟨w, hw, rfl⟩ := Option.map_eq_some_iff.mp he
      exact ⟨v, hv, Bool.eq_false_iff.mpr ‹_›, w, hw, rfl⟩
  · rintro ⟨v, hv, hp, w, hw, rfl⟩
    exact ⟨v, hv, by simp [hp, hw]⟩

example : bindEqs [["a"], ["on"], ["p"]]
    [⟨["a"], "Real", [], [], [⟨[], [], .num 0⟩]⟩, ⟨["on"], "Boolean", [], [], [⟨[], [], .bool false⟩]⟩,
     ⟨["p"], "Real", ["parameter"], [], [⟨[], [], .real "0.0"⟩]⟩, ⟨["s"], "String", [], [], [⟨[], [], .str ""⟩]⟩] =
    [.eq (.sym ["a"]) (.num 0), .eq (.sym ["on"]) (.bool false), .eq (.sym ["s"]) (.str "")] := by decide +kernel

/-- The initial equations of the flat model are exactly the initial equations (own and inherited)
    of every class instantiated at some instance path `q`, renamed at `q` — with the full prefix,
    like ordinary equations. -/
theorem initial_eqs_are_instance_eqs {fuel : Nat} {lib : Lib} {t : Path} {m : FlatModel}
    (h : flattenF fuel lib t = .ok m) (fe : FEqn) :
    fe ∈ m.ieqs ↔ ∃ q c x, InstAt lib t q c ∧ MemberIEq lib c x ∧ fe = renameEqn (m.vars.map (·.path)) q x := by
  obtain ⟨r, ri, _, htopi, rfl⟩ := flattenF_ok.mp h
  rw [assemble_paths]
  refine (mem_instEqs_iff (instTop_ok.mp htopi).2 _ fe).trans ?_
  simp only [instAt_initView, memberEq_initView]

example : flattenF 6 exLib ["M"] = .ok exFlat ∧
    exFlat.ieqs = [.eq (.fref ["lb", "w"] [.var ["lb", "n"] []]) (.num 0),
                   .eq (.fref ["l2", "w"] [.var ["l2", "n"] []]) (.num 0)] :=
  ⟨exFlat_ok, by rw [exFlat_eq]; rfl⟩

/-- Fuel only bounds the recursion: a successful flattening is reproduced with any larger fuel, so
    all statements above are about one flat model per (library, target). -/
theorem fuel_irrelevant {f f' : Nat} {lib : Lib} {t : Path} {m : FlatModel} (h : flattenF f lib t = .ok m)
    (hle : f ≤ f') : flattenF f' lib t = .ok m := by
  induction hle with
  | refl => exact h
  | step _ ih => exact flattenF_mono ih

example : flattenF 6 exLib ["M"] = .ok exFlat ∧ flattenF 9 exLib ["M"] = .ok exFlat :=
  ⟨exFlat_ok, fuel_irrelevant exFlat_ok (by decide)⟩

/-- Type names are looked up the Modelica way: a successful lookup of `h.t` from the class `scope`
    finds `h` among the candidates of the innermost level `j` (the class `scope.take j`; the root for
    `j = 0`) that has a class of that name — the candidates being the classes visible there (`vis`:
    own local classes first, then inherited ones), or only the class's own local classes when the
    name is the base class of one of its extends clauses — and then walks `t` through the classes
    visible in the classes found. -/
theorem lookup_is_lexical {vis : Path → Except Err (List (Name × Path))} {own : Path → List (Name × Path)}
    {scope : Path} {ownOnlyInner : Bool} {h : Name} {t : List Name} {p : Path}
    (hr : resolveWith vis own scope (h :: t) ownOnlyInner = .ok (.cls p)) :
    ∃ j cs b, j ≤ scope.length ∧ levelCands vis own scope ownOnlyInner j = .ok cs ∧ cs.lookup h = some b ∧
      (∀ j', j < j' → j' ≤ scope.length →
        ∃ cs', levelCands vis own scope ownOnlyInner j' = .ok cs' ∧ cs'.lookup h = none) ∧
      descend vis b t = .ok (some p) := by
  revert hr
  generalize href : h :: t = ref
  fun_cases resolveWith vis own scope ref ownOnlyInner <;> intro hr <;> cases hr <;> cases href
  obtain ⟨j, cs, hj, hc, hl, hno⟩ := findLevel_spec ‹_›
  exact ⟨j, cs, _, hj, hc, hl, hno, ‹_›⟩

/-- `package P model A end A; model Base model N end N; end Base;`
    `  model D extends Base; model L N n; A a; end L; end D; end P;` — from `P.D.L`, `N` is found one
    level up among the classes `D` inherits, `A` two levels up; as a base-class name of `D` itself,
    `N` is not found (the classes `D` inherits are not searched for its own extends clauses). -/
def exIndex : Index :=
  [([], ⟨[("P", ["P"])], []⟩),
   (["P"], ⟨[("A", ["P", "A"]), ("Base", ["P", "Base"]), ("D", ["P", "D"])], []⟩),
   (["P", "A"], ⟨[], []⟩),
   (["P", "Base"], ⟨[("N", ["P", "Base", "N"])], []⟩),
   (["P", "Base", "N"], ⟨[], []⟩),
   (["P", "D"], ⟨[("L", ["P", "D", "L"])], [(["P", "D"], ["Base"], true)]⟩),
   (["P", "D", "L"], ⟨[], []⟩)]

example : resolveF 8 exIndex ["P", "D", "L"] ["N"] false = .ok (.cls ["P", "Base", "N"]) ∧
    resolveF 8 exIndex ["P", "D", "L"] ["A"] false = .ok (.cls ["P", "A"]) ∧
    (match resolveF 8 exIndex ["P", "D"] ["N"] true with | .ok _ => false | .error _ => true) = true := by
  decide +kernel

end PymocaVerif.Flatten
