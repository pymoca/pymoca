import PymocaVerif.Lemmas.AliasMerge
/-!
# C16 — alias elimination merges variable metadata soundly

Property theorems about `AliasMerge.merge`, the fold of the merge loop of `Model._simplify_once`
(option `detect_aliases`) over the aliases of one canonical variable, in whatever order the Python
set yields them and for any number of them (any chain length).  The number type `α` is any
linear order with an involutive negation that reverses the order (`NegAnti`): every ordered field
(`negAnti_field`) and the extended rationals of the driver (`negAnti_extRat`).

An entry is *skipped* when the loop's `continue` fires ("handled in a previous pass"); in a
first pass nothing is skipped (`fresh_not_skipped`).
-/
namespace PymocaVerif.AliasMerge

section
variable {α : Type} [LinearOrder α] [InvolutiveNeg α]

omit [LinearOrder α] [InvolutiveNeg α] in
/-- In a first `detect_aliases` pass (empty old relation) no alias is skipped. -/
theorem fresh_not_skipped (neg : Bool) (a : Attrs α) : (fresh neg a).skipped = false := rfl

example : (fresh true (⟨0, 1, 1, false, none, .float⟩ : Attrs Int)).skipped = false := rfl

/-- **Bounds are the intersection.**  A value `x` of the canonical variable satisfies the merged
    bounds iff it satisfies the canonical's own bounds and, for every merged alias, the alias' own
    value `sign * x` satisfies the alias' bounds — for every number of aliases and every order. -/
theorem bounds_are_intersection (h : NegAnti α) (c : Attrs α) (es : List (Entry α)) (x : α) :
    inBox (merge c es) x ↔
      inBox c x ∧ ∀ e ∈ es, e.skipped = false → inBox e.attrs (sgn e.neg x) :=
  inBox_merge_iff h c es x

example : inBox (merge (⟨-1, 5, 2, false, none, .float⟩ : Attrs Int)
    [fresh true ⟨-3, 4, 10, true, some 7, .float⟩, fresh true ⟨0, 2, 0, false, none, .float⟩]) (-1) := by
  decide +kernel

/-- The merged lower bound is the largest of the sign-adjusted lower bounds, the merged upper
    bound the smallest of the sign-adjusted upper bounds (the two halves of the intersection). -/
theorem merged_bounds_extremal (c : Attrs α) (es : List (Entry α)) (x : α) :
    ((merge c es).min ≤ x ↔ c.min ≤ x ∧ ∀ e ∈ es, e.skipped = false → lo e.neg e.attrs ≤ x) ∧
    (x ≤ (merge c es).max ↔ x ≤ c.max ∧ ∀ e ∈ es, e.skipped = false → x ≤ hi e.neg e.attrs) :=
  ⟨merge_min_le_iff c es x, le_merge_max_iff c es x⟩

example : (merge (⟨-1, 5, 2, false, none, .float⟩ : Attrs Int)
    [fresh true ⟨-3, 4, 10, true, some 7, .float⟩]).min = -1 ∧
    (merge (⟨-1, 5, 2, false, none, .float⟩ : Attrs Int)
    [fresh true ⟨-3, 4, 10, true, some 7, .float⟩]).max = 3 := by decide +kernel

/-- **Negative aliases swap and negate.**  A negative alias contributes `[-max, -min]`, and `x`
    lies in that interval iff `-x` lies in the alias' own `[min, max]`. -/
theorem negation_swaps (h : NegAnti α) (a : Attrs α) (x : α) :
    lo true a = -a.max ∧ hi true a = -a.min ∧
      ((-a.max ≤ x ∧ x ≤ -a.min) ↔ (a.min ≤ -x ∧ -x ≤ a.max)) :=
  ⟨rfl, rfl, lo_hi_iff h true a x⟩

example : lo true (⟨-3, 4, 10, true, some 7, .float⟩ : Attrs Int) = -4 := by decide +kernel

/-- **Order independence.**  Bounds, nominal and fixed of the merged canonical do not depend on
    the iteration order of the set of aliases. -/
theorem merge_perm_invariant (c : Attrs α) {es es' : List (Entry α)} (p : es.Perm es') :
    (merge c es).min = (merge c es').min ∧ (merge c es).max = (merge c es').max ∧
    (merge c es).nominal = (merge c es').nominal ∧ (merge c es).fixed = (merge c es').fixed :=
  merge_congr_mem c fun _ => p.mem_iff

example : ([fresh true (⟨-3, 4, 10, true, some 7, .float⟩ : Attrs Int), fresh false ⟨0, 2, 0, false, none, .float⟩]).Perm
    [fresh false ⟨0, 2, 0, false, none, .float⟩, fresh true ⟨-3, 4, 10, true, some 7, .float⟩] :=
  List.Perm.swap _ _ _

/-- **Nominal is the largest.**  The merged nominal bounds the canonical's and every merged
    alias' nominal from above and is one of them. -/
theorem nominal_is_max (c : Attrs α) (es : List (Entry α)) :
    c.nominal ≤ (merge c es).nominal ∧
    (∀ e ∈ es, e.skipped = false → e.attrs.nominal ≤ (merge c es).nominal) ∧
    ((merge c es).nominal = c.nominal ∨
      ∃ e ∈ es, e.skipped = false ∧ (merge c es).nominal = e.attrs.nominal) := by
  have := (merge_nominal_le_iff c es (merge c es).nominal).1 le_rfl
  exact ⟨this.1, this.2, merge_nominal_mem c es⟩

example : (merge (⟨-1, 5, 2, false, none, .float⟩ : Attrs Int)
    [fresh true ⟨-3, 4, 10, true, some 7, .float⟩, fresh false ⟨0, 2, 3, false, none, .float⟩]).nominal = 10 := by
  decide +kernel

/-- **Fixed if any is fixed.** -/
theorem fixed_is_any (c : Attrs α) (es : List (Entry α)) :
    (merge c es).fixed = true ↔
      c.fixed = true ∨ ∃ e ∈ es, e.skipped = false ∧ e.attrs.fixed = true := by
  rw [← not_iff_not, Bool.not_eq_true, merge_fixed_false_iff]
  simp only [not_or, not_exists, not_and, Bool.not_eq_true]

example : (merge (⟨-1, 5, 2, false, none, .float⟩ : Attrs Int)
    [fresh false ⟨0, 2, 3, false, none, .float⟩, fresh true ⟨-3, 4, 10, true, some 7, .float⟩]).fixed = true := by
  decide +kernel

/-- **Start kept or adopted.**  An explicit start of the canonical is kept whatever the aliases
    say; without one the canonical takes the sign-adjusted explicit start of the first merged
    alias (in iteration order) that has one, and keeps the default marker if none has. -/
theorem start_kept_or_adopted (c : Attrs α) (es : List (Entry α)) :
    (∀ v, c.start = some v → (merge c es).start = some v) ∧
    (c.start = none → (merge c es).start = es.findSome? adopt) ∧
    (c.start = none → ∀ w, (merge c es).start = some w →
        ∃ e ∈ es, e.skipped = false ∧ ∃ v, e.attrs.start = some v ∧ w = sgn e.neg v) ∧
    (c.start = none → ((merge c es).start = none ↔
        ∀ e ∈ es, e.skipped = false → e.attrs.start = none)) := by
  have key := merge_start_eq c es
  refine ⟨fun v hv => by rw [key, hv], fun hn => by rw [key, hn], fun hn w hw => ?_, fun hn => ?_⟩
  · rw [key, hn] at hw
    obtain ⟨e, he, hw⟩ := List.exists_of_findSome?_eq_some hw
    obtain ⟨hs, v, hv, rfl⟩ := (adopt_eq_some_iff e w).1 hw
    exact ⟨e, he, hs, v, hv, rfl⟩
  · rw [key, hn]
    simp only [List.findSome?_eq_none_iff, adopt_eq_none_iff]

example : (merge (⟨-1, 5, 2, false, none, .float⟩ : Attrs Int)
    [fresh false ⟨0, 2, 3, false, none, .float⟩, fresh true ⟨-3, 4, 10, true, some 7, .float⟩]).start = some (-7) ∧
    (merge (⟨-1, 5, 2, false, some 1, .float⟩ : Attrs Int)
    [fresh true ⟨-3, 4, 10, true, some 7, .float⟩]).start = some 1 := by decide +kernel

/-- **Whatever the iteration order**, the start of the merged canonical is one of `startChoices`:
    its own explicit start, else an explicit (sign-adjusted) start of a merged alias, else the default
    marker.  (The Python set of aliases has no defined order; the property does not say which alias'
    start is adopted.) -/
theorem start_admissible_any_order (c : Attrs α) {es es' : List (Entry α)} (p : es'.Perm es) :
    (merge c es').start ∈ startChoices c es :=
  merge_start_mem_choices c fun _ => p.mem_iff

example : startChoices (⟨-1, 5, 2, false, none, .float⟩ : Attrs Int)
    [fresh false ⟨0, 2, 3, false, some 4, .float⟩, fresh true ⟨-3, 4, 10, true, some 7, .float⟩] = [some 4, some (-7)] := by
  decide +kernel

/-- **Two passes equal one.**  In a later pass the former canonical `g` of an earlier class
    (carrying `merge g ms`, found by the lookup in the old canonical variables) is absorbed with its
    sign `s` and its old aliases are skipped; the resulting bounds, nominal and fixed are those of
    merging `g` and all of `ms` directly, signs multiplied. -/
theorem two_pass_equals_flat (h : NegAnti α) (c g : Attrs α) (s : Bool) (ms es₁ es₂ : List (Entry α)) (x : α) :
    let late : Entry α := ⟨s, true, true, merge g ms⟩
    let flat := es₁ ++ fresh s g :: (ms.map (compose s) ++ es₂)
    late.skipped = false ∧
    (inBox (merge c (es₁ ++ late :: es₂)) x ↔ inBox (merge c flat) x) ∧
    ((merge c (es₁ ++ late :: es₂)).nominal = (merge c flat).nominal) ∧
    ((merge c (es₁ ++ late :: es₂)).fixed = (merge c flat).fixed) := by
  refine ⟨rfl, ?_, eq_of_forall_ge_iff fun z => ?_, bool_eq_of_false_iff ?_⟩
  · refine merge_late_iff (inBox · x) (fun e => inBox e.attrs (sgn e.neg x))
      (inBox_merge_iff h · · x) ?_
    show inBox (merge g ms) (sgn s x) ↔ _
    rw [inBox_merge_iff h]
    simp only [sgn_sgn]
    exact Iff.rfl
  · exact merge_late_iff (·.nominal ≤ z) (·.attrs.nominal ≤ z) (merge_nominal_le_iff · · z)
      (merge_nominal_le_iff g ms z)
  · exact merge_late_iff (·.fixed = false) (·.attrs.fixed = false) merge_fixed_false_iff
      (merge_fixed_false_iff g ms)

example : (merge (⟨-9, 9, 0, false, none, .float⟩ : Attrs Int)
    [⟨true, true, true, merge ⟨-3, 4, 2, false, none, .float⟩ [fresh true ⟨0, 2, 7, true, none, .float⟩]⟩,
     ⟨false, true, false, ⟨0, 2, 7, true, none, .float⟩⟩]).max = 2 := by decide +kernel

/-- **Chains / nested classes, any sign.**  Absorbing, with sign `s`, an alias that already carries
    the merged attributes of its own aliases `ms` gives the same bounds as absorbing all of them
    directly with multiplied signs. -/
theorem nested_bounds (h : NegAnti α) (c g : Attrs α) (s : Bool) (ms : List (Entry α)) (x : α) :
    inBox (absorb c s (merge g ms)) x ↔
      inBox (merge c (fresh s g :: ms.map (compose s))) x := by
  have := (two_pass_equals_flat h c g s ms [] [] x).2.1
  rwa [List.nil_append, List.nil_append, List.append_nil] at this

example : inBox (absorb (⟨-9, 9, 0, false, none, .float⟩ : Attrs Int) true
    (merge ⟨-3, 4, 0, false, none, .float⟩ [fresh true ⟨0, 2, 0, false, none, .float⟩])) 1 := by decide +kernel

/-- **A former canonical the lookup does not find is ignored.**  If the test
    `alias in old_alias_relation.canonical_variables` fails for the canonical of an earlier class —
    as it does in the current code for every *negative* alias, whose signed name is looked up among
    unsigned names (finding C16-F2) — the entry is skipped like an already handled alias and whatever
    it carries is lost: `two_pass_equals_flat` cannot do without `inCanon = true`. -/
theorem former_canonical_not_found_is_ignored (c a : Attrs α) (s : Bool) (es : List (Entry α)) :
    merge c (⟨s, true, false, a⟩ :: es) = merge c es := rfl

example : (merge (⟨-9, 9, 0, false, none, .float⟩ : Attrs Int) [⟨true, true, false, ⟨-1, 1, 5, true, some 2, .float⟩⟩]).max = 9 := by
  decide +kernel

end

/-- The theorems hold for the numbers the driver computes with (extended rationals)… -/
theorem bounds_are_intersection_extRat (c : Attrs ExtRat) (es : List (Entry ExtRat)) (x : ExtRat) :
    inBox (merge c es) x ↔
      inBox c x ∧ ∀ e ∈ es, e.skipped = false → inBox e.attrs (sgn e.neg x) :=
  bounds_are_intersection negAnti_extRat c es x

example : inBox (merge (⟨.ninf, .pinf, .fin 0, false, none, .float⟩ : Attrs ExtRat)
    [fresh true ⟨.fin (-3), .pinf, .fin 1, false, none, .float⟩]) (.fin 3) := by decide +kernel

/-- …and over every ordered field. -/
theorem bounds_are_intersection_field {K : Type} [Field K] [LinearOrder K] [IsStrictOrderedRing K]
    (c : Attrs K) (es : List (Entry K)) (x : K) :
    inBox (merge c es) x ↔
      inBox c x ∧ ∀ e ∈ es, e.skipped = false → inBox e.attrs (sgn e.neg x) :=
  bounds_are_intersection negAnti_field c es x

example : inBox (merge (⟨-1, 5, 2, false, none, .float⟩ : Attrs ℚ)
    [fresh true ⟨-3, 4, 10, true, some 7, .float⟩]) (1/2) := by
  rw [bounds_are_intersection_field]
  decide +kernel

end PymocaVerif.AliasMerge
