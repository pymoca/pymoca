import PymocaVerif.Lemmas.SimplifyPipeline
import PymocaVerif.Lemmas.SimplifyAliasPass
/-!
# C15 — simplification keeps regular systems square and self-contained

Property theorems about the model `PymocaVerif.Model.Simplify` of `Model.simplify`.
`Balanced m m'`: `#unknowns - #equations` is the same in `m` and `m'` (unknowns = states and
algebraic states, as `check_balanced` counts them).  `Closed m`: no equation, initial equation or
delay argument of `m` mentions a symbol that is in none of `m`'s variable lists — exactly the
condition under which CasADi can build the residual functions.
-/
set_option linter.unusedSectionVars false
namespace PymocaVerif.Simplify
open PymocaVerif.AliasRel Lean.Grind

variable {K : Type} [Field K] [DecidableEq K]

/-! ### objects for the non-vacuity examples -/

def c15E : Engine Rat := { norm := id, gzero := fun _ _ _ _ => false }
def c15I : Interp Rat := ⟨fun x => x, fun x => x, fun _ x => x, fun _ _ _ => 0⟩
/-- `x - 3 = 0`, `e - (y + 1) = 0`, `y - 2*x = 0`, parameter `q = p + 1`, `p = 2` -/
def c15M : Model Rat :=
  { algs := [{ name := "x" }, { name := "e" }, { name := "y" }],
    params := [{ name := "p", value := some (.const 2) }, { name := "q", value := some (.bin .add (.sym "p") (.const 1)) }],
    eqs := [.bin .sub (.sym "x") (.const 3), .bin .sub (.sym "e") (.bin .add (.sym "y") (.sym "q")),
            .bin .sub (.sym "y") (.bin .mul (.const 2) (.sym "x"))] }
def c15O : Opts := { expandMx := true, eliminable := some ["e"] }

theorem c15E_ok : EngineOk c15I c15E := ⟨fun _ _ => rfl, fun _ _ h => h, fun _ _ _ => rfl⟩

theorem c15M_closed : Closed c15M := by
  rw [← dangling_nil_iff]; decide

/-! ### balance -/

/-- `balance_step`: every pass other than the alias detection removes equations and unknowns in
    pairs, for every option set — provided the algebraic states have distinct names (they are keys of
    a Python dict in the real code). -/
theorem balance_step {E : Engine K} (o : Opts) (p : Pass) (hp : p ≠ .alias) {m m' : Model K}
    (hnd : (names m.algs).Nodup) (h : Pass.run E o p m = .ok m') : Balanced m m' := by
  cases p <;> simp only [Pass.run] at h
  · cases h; exact resolveLoop_balanced E _ _ m
  · cases h; exact pexpr_balanced E m
  · cases h; exact cexpr_balanced E m
  · cases h; exact cassign_balanced m hnd
  · exact pvalues_balanced h
  · exact cvalues_balanced h
  · exact elim_balanced hnd h
  · cases h; exact factor_balanced m
  · exact absurd rfl hp

example : ∃ m', Pass.run c15E c15O .elim c15M = .ok m' ∧ (names c15M.algs).Nodup ∧
    nUnknowns m' = 2 ∧ m'.eqs.length = 2 := ⟨_, rfl, by decide, by decide, by decide⟩

/-- `_make_alias` only ever calls `AliasRelation.add` on two variables that are not yet related (with
    either sign), so every call joins two classes, keeps the invariant `WF` of the relation (shared class
    lists closed under negation, one recorded canonical member per class, `canonical_variables` = the
    canonical names) and makes exactly one more name non-canonical.  This is where the two former
    defects C14-F1/F2 lived; the guard of commit 494f047 is what makes the statement true for every call. -/
theorem make_alias_joins_classes {cx : AliasCtx} {s s' : AR} {d0 d1 : String} {neg : Bool}
    (hw : WF s) (hj : JInv cx s) (h : makeAlias cx s d0 d1 neg = some (s', true)) :
    WF s' ∧ JInv cx s' ∧ elimCount s' = elimCount s + 1 := by
  obtain ⟨alg, other, hf⟩ := makeAlias_dropped h
  obtain ⟨h1, h2, _, h4⟩ := jinv_add hw hj (Ext.refl s) hf
  exact ⟨h1, h2, h4⟩

example : makeAlias ⟨[], [], ["x", "y"], [], [], [], true⟩ AR.empty "x" "y" true ≠ none ∧ WF AR.empty := by
  refine ⟨by decide, wf_empty⟩

/-- `balance_step` for the alias detection (first pass: the model's alias relation is still empty):
    every alias equation that is dropped goes together with exactly one algebraic variable that is
    eliminated — unconditionally, for every equation list, every observation of CasADi and every
    option.  Variable names are distinct (one Python dict `all_states`). -/
theorem balance_step_alias {E : Engine K} {allowDer : Bool} {m m' : Model K} (hempty : m.ar = AR.empty)
    (hnd : (names m.states ++ names m.ders ++ names m.algs ++ names m.inputs ++ names m.params ++ names m.consts).Nodup)
    (h : detectAliases E allowDer m = .ok m') : Balanced m m' := alias_balanced (hempty ▸ wf_empty) (hempty ▸ jinv_empty _) hnd h

example : ∃ m', detectAliases c15E true
      ({ algs := [{ name := "x" }, { name := "y" }, { name := "z" }],
         eqs := [.bin .sub (.sym "x") (.sym "y"), .bin .add (.sym "y") (.sym "z"), .bin .sub (.sym "z") (.const 2)] } : Model Rat)
      = .ok m' ∧ nUnknowns m' = 1 ∧ m'.eqs.length = 1 := ⟨_, rfl, by decide, by decide⟩

/-- `balance_step` for *any* alias detection pass, in particular the later passes of
    `iterative_simplification`: if the alias relation the pass starts from has the invariant the previous
    pass leaves (`WF`, and `JInv`: non-canonical members are never protected variables), the equations it
    drops and the algebraic variables it eliminates *now* — those the "already handled" test does not
    skip — are equally many.  The counting is relative to the old relation: the base names handled before
    are exactly the non-canonical names of the old relation, they stay non-canonical (`Ext`), and the
    non-canonical names of a relation are as many as `elimCount` (`elim_now_count`). -/
theorem balance_step_alias_any {E : Engine K} {allowDer : Bool} {m m' : Model K} (ho : WF m.ar)
    (hjo : JInv ⟨names m.states, names m.ders, names m.algs, names m.inputs, names m.params, names m.consts, allowDer⟩ m.ar)
    (hnd : (names m.states ++ names m.ders ++ names m.algs ++ names m.inputs ++ names m.params ++ names m.consts).Nodup)
    (h : detectAliases E allowDer m = .ok m') : Balanced m m' := alias_balanced ho hjo hnd h

/-- second pass: `a` was eliminated as alias of `x` before (it is no longer a variable of the model);
    now `x + s = 0` makes the former canonical variable `x` a negative alias of the state `s` (and `w` an alias of `der(s)`) -/
def c15M2 : Model Rat :=
  { states := [{ name := "s" }], ders := [{ name := "der(s)" }], algs := [{ name := "x", aliased := true }, { name := "w" }],
    eqs := [.bin .add (.sym "x") (.sym "s"), .bin .sub (.sym "w") (.bin .mul (.const 2) (.sym "x")),
            .bin .sub (.sym "der(s)") (.sym "w")],
    ar := { al := fun k => if k = (false, "x") ∨ k = (false, "a") then some [(false, "x"), (false, "a")]
                          else if k = (true, "x") ∨ k = (true, "a") then some [(true, "x"), (true, "a")] else none,
            cmap := fun k => if k = (false, "x") ∨ k = (false, "a") then some ("x", false)
                            else if k = (true, "x") ∨ k = (true, "a") then some ("x", true) else none,
            cv := ["x"] } }

example : ∃ m', detectAliases c15E true c15M2 = .ok m' ∧ names m'.algs = [] ∧ m'.eqs.length = 1 ∧ m'.ar.cv = ["s", "der(s)"] ∧
    nUnknowns c15M2 = 3 ∧ nUnknowns m' = 1 := ⟨_, rfl, by decide, by decide, by decide, by decide, by decide⟩

/-! ### self-contained -/

/-- What the substituting passes need in order to leave nothing dangling: the values they substitute
    mention only symbols that stay in the model (for the fixpoint passes: the resolved values). -/
def ClosedPre (E : Engine K) (o : Opts) (p : Pass) (m : Model K) : Prop :=
  match p with
  | .pexpr => ∀ q ∈ fixedList E m.params, ∀ n ∈ q.2.syms,
      n ∈ ({ m with params := m.params.filter Var.simple } : Model K).known
  | .cexpr => ∀ q ∈ fixedList E m.consts, ∀ n ∈ q.2.syms,
      n ∈ ({ m with consts := m.consts.filter Var.simple } : Model K).known
  | .elim => ∀ r, elimLoop (names m.states) (names m.states ++ names m.algs) (o.eliminable.getD []) m.eqs m.algs = .ok r →
      ∀ q ∈ elimList E r.2.1, ∀ n ∈ q.2.syms, n ∈ ({ m with algs := r.2.2 } : Model K).known
  | _ => True

/-- `closed_step`: every pass other than the alias detection maps a self-contained model to a
    self-contained model (so the residual functions can be built), under `ClosedPre`.  In
    particular `replace_parameter_values` and `replace_constant_values` (constant values) and
    `eliminate_constant_assignments` need no precondition. -/
theorem closed_step {I : Interp K} {E : Engine K} (hE : EngineOk I E) (o : Opts) (p : Pass) (hp : p ≠ .alias)
    {m m' : Model K} (hpre : ClosedPre E o p m) (hc : Closed m) (h : Pass.run E o p m = .ok m') : Closed m' := by
  cases p <;> simp only [Pass.run] at h
  · cases h; exact resolveLoop_closed E _ _ m hc
  · cases h; exact pexpr_closed hE hc hpre
  · cases h; exact cexpr_closed hE hc hpre
  · cases h; exact cassign_closed m hc
  · exact pvalues_closed hE h hc
  · exact cvalues_closed hE h hc
  · exact elim_closed hE h hc hpre
  · cases h; exact factor_closed m hc
  · exact absurd rfl hp

example : EngineOk c15I c15E ∧ Closed c15M ∧ ClosedPre c15E c15O .pvalues c15M := ⟨c15E_ok, c15M_closed, trivial⟩

/-- `closed_step` for the alias detection (first pass): no canonical variable is eliminated, so the
    substituted equations, initial equations and delay arguments only mention remaining variables. -/
theorem closed_step_alias {I : Interp K} {E : Engine K} (hE : EngineOk I E) {allowDer : Bool} {m m' : Model K}
    (hempty : m.ar = AR.empty) (hc : Closed m)
    (hnd : (names m.states ++ names m.ders ++ names m.algs ++ names m.inputs ++ names m.params ++ names m.consts).Nodup)
    (h : detectAliases E allowDer m = .ok m') : Closed m' := alias_closed hE (hempty ▸ wf_empty) (hempty ▸ jinv_empty _) hc h

example : (names c15M.states ++ names c15M.ders ++ names c15M.algs ++ names c15M.inputs ++ names c15M.params ++ names c15M.consts).Nodup ∧
    c15M.ar = AR.empty := ⟨by decide, rfl⟩

/-- `closed_step` for any alias detection pass: no canonical variable is eliminated, whatever the
    relation the pass starts from (under its invariant). -/
theorem closed_step_alias_any {I : Interp K} {E : Engine K} (hE : EngineOk I E) {allowDer : Bool} {m m' : Model K}
    (ho : WF m.ar)
    (hjo : JInv ⟨names m.states, names m.ders, names m.algs, names m.inputs, names m.params, names m.consts, allowDer⟩ m.ar)
    (hc : Closed m)
    (hnd : (names m.states ++ names m.ders ++ names m.algs ++ names m.inputs ++ names m.params ++ names m.consts).Nodup)
    (h : detectAliases E allowDer m = .ok m') : Closed m' := alias_closed hE ho hjo hc h

example : Closed c15M2 ∧ ∃ m', detectAliases c15E true c15M2 = .ok m' ∧ m'.dangling = [] :=
  ⟨by rw [← dangling_nil_iff]; decide, _, rfl, by decide⟩

/-! ### one whole `_simplify_once` -/

/-- what each enabled pass needs from the model it receives, along one run -/
def RunPre15 (E : Pass → Engine K) (o : Opts) : List Pass → Model K → Prop
  | [], _ => True
  | p :: ps, m =>
    if p.enabled o then
      ((names m.algs).Nodup ∧ ClosedPre (E p) o p m ∧
        (p = .alias → WF m.ar ∧
          JInv ⟨names m.states, names m.ders, names m.algs, names m.inputs, names m.params, names m.consts,
                o.allowDerivativeAliases⟩ m.ar ∧
          (names m.states ++ names m.ders ++ names m.algs ++ names m.inputs ++ names m.params ++ names m.consts).Nodup)) ∧
      ∀ m', Pass.run (E p) o p m = .ok m' → RunPre15 E o ps m'
    else RunPre15 E o ps m

/-- Balance and `closed_residual` along the pass list: for every option set and whatever alias relation
    the model carries (so for any iteration of the loop of `simplify`), a run of the passes of
    `_simplify_once` (`runPasses`; the affine collapse is not one of them) that returns leaves
    `#unknowns - #equations` unchanged and a self-contained model self-contained (so all residual
    functions can be built) — by induction over the pass list. -/
theorem simplify_once_square_and_closed {I : Interp K} {E : Pass → Engine K} (hE : ∀ p, EngineOk I (E p)) (o : Opts) :
    ∀ (ps : List Pass) (m m' : Model K), RunPre15 E o ps m → Closed m → runPasses E o ps m = .ok m' →
      Balanced m m' ∧ Closed m' :=
  fun ps m m' hpre hc h =>
    runPasses_induct (R := fun m m' => Closed m → Balanced m m' ∧ Closed m')
      (fun _ _ _ hpre => hpre) (fun m hc => ⟨Balanced.refl m, hc⟩)
      (fun f g hc => ⟨Balanced.trans (f hc).1 (g (f hc).2).1, (g (f hc).2).2⟩)
      (fun p m m1 ⟨hnd, hcp, hal⟩ h1 hc => by
        by_cases hp : p = .alias
        · subst hp
          obtain ⟨hwf, hji, hnames⟩ := hal rfl
          simp only [Pass.run] at h1
          exact ⟨balance_step_alias_any hwf hji hnames h1, closed_step_alias_any (hE _) hwf hji hc hnames h1⟩
        · exact ⟨balance_step o p hp hnd h1, closed_step (hE p) o p hp hcp hc h1⟩) ps m m' hpre h hc

example : ∃ m', runPasses (fun _ => c15E) c15O Pass.order c15M = .ok m' ∧ nUnknowns m' = 2 ∧ m'.eqs.length = 2 ∧
    m'.dangling = [] := ⟨_, rfl, by decide, by decide, by decide⟩

/-- `closed_residual`, executable form: the list of dangling symbols the driver reports for a model
    is empty exactly when the model is self-contained. -/
theorem closed_residual_iff (m : Model K) : m.dangling = [] ↔ Closed m := dangling_nil_iff m

example : c15M.dangling = [] := by decide

end PymocaVerif.Simplify
