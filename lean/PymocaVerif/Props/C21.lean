import PymocaVerif.Lemmas.CacheState
import PymocaVerif.Lemmas.CacheFile
/-!
# C21 — an interrupted or in-progress cache write never breaks later loads

Two models.  `CacheState` (shared with C20): the cache file is the first `written` bytes of a
pickle of `size` bytes; `save_model` can die before `open`, or with any number of bytes on
disk; the file can be cut at any offset.  `CacheFile`: two `transfer_model` calls on one
folder at byte level (truncating `open`, private file offsets, writes in arbitrary pieces).

Hypothesis `Lawful cfg` (DESIGN §5: `unpickleErr ⊆ caught`): whatever CPython's unpickler raises on a
strict prefix of a pickle is among the classes `load_model` converts to `InvalidCacheError`
(the harness observes the classes on every run; the `except` clauses are in the model as
`convert`).  Outside the model (stated in the evidence): torn writes that are not prefixes
when more than two calls race or the two calls write different bytes, and shared libraries
torn by the linker.
-/
namespace PymocaVerif.CacheState

variable {M : Type}

/-- Crash safety at every crash point: let a `transfer_model` die anywhere in `save_model`
    (before `open`, or with any `k` bytes written — `k = 0` is the empty file, `k ≥ size`
    the complete one); the next `transfer_model`, with any options, does not raise and returns
    the compile of the current sources. -/
theorem crash_safe (cfg : Cfg M) (L : List Folder) (hlaw : Lawful cfg) (w : World M)
    (h0 : FreshInv cfg L w) (o o' : Opts) (now size now' size' : Nat) (i : Interrupt)
    (hm : o.norm.mtimeCheck = true) (hl : cfg.exclLibs = true → o.libs = L)
    (hm' : o'.norm.mtimeCheck = true) (hl' : cfg.exclLibs = true → o'.libs = L) :
    let w1 := (transfer cfg w o now size i).1
    (transfer cfg w1 o' now' size').2.model? = some (compileNow cfg w1 o'.norm) :=
  (transfer_spec hlaw (transfer_spec hlaw h0 (.inl hm) hl).2 (.inl hm') hl').1

/-- The cache file cut at *every* byte offset `k` (whatever mtime the cut leaves): the next
    `transfer_model` does not raise and returns the compile of the current sources. -/
theorem truncation_safe (cfg : Cfg M) (L : List Folder) (hlaw : Lawful cfg) (w : World M)
    (h0 : FreshInv cfg L w) (k t : Nat) (o : Opts) (now size : Nat)
    (hm : o.norm.mtimeCheck = true) (hl : cfg.exclLibs = true → o.libs = L) :
    let w1 := (step cfg w (.truncate k t)).1
    (transfer cfg w1 o now size).2.model? = some (compileNow cfg w1 o.norm) :=
  (transfer_spec hlaw (step_freshInv (.truncate k t) hlaw h0 trivial) (.inl hm) hl).1

/-- The same for unbounded histories mixing edits, version changes, interrupted transfers,
    truncations and transfers: no transfer raises, each returns the current compile, and
    the state stays `FreshInv` (so the repaired cache is served afterwards). -/
theorem crash_safe_history (cfg : Cfg M) (L : List Folder) (hlaw : Lawful cfg) (hist : List Op)
    (w : World M) (h0 : FreshInv cfg L w) (hadm : Admissible cfg L w hist) :
    AllCorrect cfg w hist ∧ FreshInv cfg L (run cfg w hist).1 :=
  history_spec hlaw h0 hadm

/-- After the repair the cache is used again: a transfer that follows an uninterrupted
    transfer with the same options, nothing newer than the cache, is a hit. -/
theorem repaired_cache_is_served (cfg : Cfg M) (w : World M) (o : Opts) (now size : Nat)
    (hc : (o.norm.cache || o.norm.codegen) = true)
    (hmiss : ∀ m, load cfg w o.norm ≠ .hit m) (hr : ∀ e, load cfg w o.norm ≠ .raised e)
    (hnow : ∀ f ∈ folders o.norm, ∀ x ∈ w.fs f, x.mtime ≤ now) (now' size' : Nat) :
    let w1 := (transfer cfg w o now size).1
    (transfer cfg w1 o now' size').2 = .hit (compileNow cfg w o.norm) := by
  intro w1
  cases hload : load cfg w o.norm with
  | hit m => exact absurd hload (hmiss m)
  | raised e => exact absurd hload (hr e)
  | miss r =>
    have hw1 : w1 = { w with cache := some ⟨now, ⟨w.version, o.norm, compileNow cfg w o.norm⟩, size, size⟩ } :=
      congrArg Prod.fst (transfer_miss hc hload)
    have hl : load cfg w1 o.norm = .hit (compileNow cfg w o.norm) := by
      rw [hw1]
      -- the new cache file passes all four checks
      refine load_eq_hit_iff.2 ⟨_, rfl, fun _ f hf => ?_, decide_eq_true (Nat.le_refl size), rfl,
        optsMatch_iff.2 ⟨.inr rfl, rfl, rfl, rfl, rfl, rfl⟩, rfl⟩
      exact List.any_eq_false.2 fun x hx => by simpa using hnow f hf x hx
    exact congrArg Prod.snd (transfer_hit hc hl)

/-- The hypothesis `Lawful` is necessary: when unpickling the prefix raises a
    class outside the `except` clauses the exception escapes `transfer_model` (this is what the
    code did for every truncation before `cd26bc9`, and for spliced files before `9d600b8`). -/
theorem uncaught_class_escapes (cfg : Cfg M) (w : World M) (c : CacheFile M) (o : Opts)
    (now size : Nat) (hc : w.cache = some c) (hcut : c.written < c.size)
    (hfresh : ∀ f ∈ folders o.norm, stale c (w.fs f) = false)
    (hcg : (o.norm.cache || o.norm.codegen) = true)
    (hbad : convert (cfg.truncErr c.written) = none) :
    (transfer cfg w o now size).2 = .raised (cfg.truncErr c.written) :=
  congrArg Prod.snd (transfer_raised hcg (load_eq_raised_iff.2
    ⟨c, hc, fun _ => hfresh, decide_eq_false (Nat.not_le.2 hcut), hbad, rfl⟩))

/-- Every `Exception` the unpickler raises (by MRO: the documented `UnpicklingError`,
    `AttributeError`, `EOFError`, `ImportError`, `IndexError`, but also `ValueError`,
    `UnicodeDecodeError`, … seen on spliced files) is converted, unless it is a `RuntimeError`. -/
theorem documented_classes_converted (mro : List String) (d : Bool) (c : String)
    (hc : c ∈ caughtClasses) (hm : c ∈ mro) (hr : "RuntimeError" ∉ mro) :
    convert ⟨mro, d⟩ = some .damaged := by
  have h2 : mro.any (fun c => caughtClasses.contains c) = true :=
    List.any_eq_true.2 ⟨c, hm, List.contains_iff_mem.2 hc⟩
  unfold convert
  rw [if_neg (by simpa using hr), if_pos h2]

/-- Whatever the bytes of a file that does not unpickle to a cache are — a prefix, a splice of
    two writers with different options, a hole, leftovers of a third writer — the state
    machine only sees "not complete, unpickling raises `truncErr`", and `Lawful` says that
    exception is converted: the call recompiles, returns the compile of the current sources,
    and leaves a `FreshInv` state.  (Not covered: a torn file that unpickles *successfully* to a
    wrong dictionary; seed C21-3 shows the in-place variant that makes this reachable.) -/
theorem damaged_cache_is_repaired (cfg : Cfg M) (L : List Folder) (hlaw : Lawful cfg) (w : World M)
    (c : CacheFile M) (hc : w.cache = some c) (hd : c.complete = false) (o : Opts) (now size : Nat)
    (hm : o.norm.mtimeCheck = true) (hl : cfg.exclLibs = true → o.libs = L) :
    (transfer cfg w o now size).2.model? = some (compileNow cfg w o.norm) ∧
      FreshInv cfg L (transfer cfg w o now size).1 :=
  transfer_spec hlaw (freshInv_of_incomplete fun c' hc' => by cases hc.symm.trans hc'; exact hd)
    (.inl hm) hl

section examples
def exCfg21 : Cfg Nat :=
  { compile := fun v s _ => v + s.length, truncErr := fun n => ⟨[if n < 2 then "EOFError" else "UnpicklingError", "Exception"], false⟩,
    exclLibs := true }
def exO : Opts := { libs := [], mtimeCheck := true, cache := true, codegen := false, expandMx := false, rest := [] }
def exW21 : World Nat := ⟨fun f => if f = 0 then [⟨"M.mo", 3, 7⟩] else [], none, 1⟩
example : Lawful exCfg21 := by
  intro n
  by_cases h : n < 2 <;> simp [exCfg21, convert, caughtClasses, h]
-- the hypotheses are satisfiable; and the crash really leaves a damaged file that is repaired
example : FreshInv exCfg21 [] exW21 ∧ exO.norm.mtimeCheck = true := ⟨freshInv_of_no_cache rfl, rfl⟩
example : ((transfer exCfg21 (transfer exCfg21 exW21 exO 10 100 (.after 37)).1 exO 20 100).2).kind
    = "compiled:damaged" := by decide +kernel
example : ((transfer exCfg21 (transfer exCfg21 (transfer exCfg21 exW21 exO 10 100 (.after 37)).1 exO 20 100).1
    exO 30 100).2).kind = "hit" := by decide +kernel
-- classes outside the except clauses: the hypothesis of `uncaught_class_escapes` is satisfiable
example : convert ⟨["KeyboardInterrupt", "BaseException"], false⟩ = none := by decide +kernel
example : convert ⟨["RecursionError", "RuntimeError", "Exception", "BaseException"], false⟩ = none := by decide +kernel
example : convert ⟨["ValueError", "Exception", "BaseException"], false⟩ = some .damaged := by decide +kernel
example : convert ⟨["ModuleNotFoundError", "ImportError", "Exception"], false⟩ = some .damaged := by decide +kernel
end examples

end PymocaVerif.CacheState

namespace PymocaVerif.CacheFile

/-- Reader/writer, for calls that write *different* byte strings `B false`, `B true` (different
    options, or sources edited in between) and any mix of in-place and atomic (temporary
    file + rename) writers: in every interleaving of two `transfer_model` calls, a call that
    is about to load sees the initial file, or exactly a prefix of what the *other* call is
    writing (empty, partial, or all of it) — never a splice.  With `damaged_cache_is_repaired`
    (a strict prefix is repaired) and C20 (a complete file is served only if fresh and for
    equal options) every reader therefore returns a correct model.
    Modelling assumptions: two calls (the property's quantifier), and a reader's
    `pickle.load` sees one snapshot of the file. -/
theorem reader_sees_initial_or_prefix (B : Bool → Nat → Nat) (N : Bool → Nat) (valid : File → Bool)
    (f0 : Option File) (acts : List Act) (s : Sys) (i : Bool)
    (hrun : runActsG B N valid (init f0) acts = some s) (hi : s.ph i = .start) :
    s.file = f0 ∨ ∃ f p, s.file = some f ∧ p ≤ N (!i) ∧ IsPre f (B (!i)) p := by
  have hg : GoodG B N f0 s := .of_run hrun
  have hio : (s.ph i).opened = false := by rw [hi]; rfl
  cases hother : (s.ph (!i)).opened with
  | true =>
    obtain ⟨f, hfile, hpre⟩ := hg.single (!i) hother (by rw [Bool.not_not]; exact hio)
    exact .inr ⟨f, _, hfile, posOf_le (hg.bound _), hpre⟩
  | false =>
    cases i with
    | false => exact .inl (hg.fresh hio hother)
    | true => exact .inl (hg.fresh hother hio)

/-- Atomic writers (temporary file + `os.replace`, any bytes): at every point of every
    schedule the cache file is the initial one or a complete cache of one of the calls — no
    reader and no later call ever sees a partial or spliced file. -/
theorem atomic_writers_file_always_complete (B : Bool → Nat → Nat) (N : Bool → Nat) (valid : File → Bool)
    (f0 : Option File) (acts : List Act) (s : Sys) (hat : atomicOnly acts = true)
    (hrun : runActsG B N valid (init f0) acts = some s) :
    s.file = f0 ∨ ∃ i, s.file = some (File.full (B i) (N i)) :=
  atomic_file hat hrun (.inl rfl)

/-- When both calls have returned and at least one of them wrote, the file holds exactly `B`:
    an in-progress or overlapping write leaves nothing behind that could break later loads.
    PARTIAL: in-place writers with one byte string `B` for both.  With different bytes an
    in-place final file can be a splice; then `damaged_cache_is_repaired` applies as long as the
    splice does not unpickle (sampled on the real code), and `atomic_writers_file_always_complete`
    covers the atomic variant for any bytes. -/
theorem final_file_complete_partial (B : Nat → Nat) (N : Nat) (valid : File → Bool)
    (f0 : Option File) (acts : List Act) (s : Sys) (i : Bool)
    (hrun : runActs B N valid (init f0) acts = some s)
    (hdone : ∀ j, ∃ b, s.ph j = .done b) (hi : s.ph i = .done false) :
    ∃ f, s.file = some f ∧ IsPre f B N := by
  obtain ⟨l, f, _, hlo, hfile, hlen, hpre⟩ := Good.of_run hrun i (by rw [hi]; rfl)
  -- the last opener has returned, and it wrote: its offset is `N`
  obtain ⟨b, hb⟩ := hdone l
  rw [hb] at hlo hpre
  cases b with
  | true => cases hlo
  | false => exact ⟨f, hfile, Nat.le_antisymm hlen hpre.1, hpre.2⟩

/-- If nobody wrote (both calls were served from the cache) the file is untouched. -/
theorem untouched_when_both_hit (B : Nat → Nat) (N : Nat) (valid : File → Bool)
    (f0 : Option File) (acts : List Act) (s : Sys)
    (hrun : runActs B N valid (init f0) acts = some s)
    (h0 : s.ph false = .done true) (h1 : s.ph true = .done true) : s.file = f0 := by
  rw [runActs_eq_runActsG] at hrun
  exact (GoodG.of_run hrun).fresh (by rw [h0]; rfl) (by rw [h1]; rfl)

section examples
def exB : Nat → Nat := fun j => 10 + j
/-- both calls miss; the second opens (truncates) while the first is half way -/
def exActs : List Act :=
  [.load false, .load true, .openW false, .write false 2, .openW true, .write false 2, .write true 1,
   .close false, .write true 3, .close true]
example : (runActs exB 4 (fun f => f.isAll exB 4) (init none) exActs).map (fun s => s.file.map File.bytes)
    = some (some [10, 11, 12, 13]) := by decide +kernel
-- in the middle of that schedule the file is *not* a prefix (a hole of zeros): two writers
example : (runActs exB 4 (fun f => f.isAll exB 4) (init none) (exActs.take 6)).map (fun s => s.file.map File.bytes)
    = some (some [0, 0, 12, 13]) := by decide +kernel
-- different bytes, in place: the final file can be a splice (here 20,21 from call 1 then 12,13 from call 0)
example : (runActsG (fun i j => if i then 20 + j else 10 + j) (fun _ => 4) (fun _ => false) (init none)
    [.load false, .load true, .openW false, .write false 2, .openW true, .write true 4, .close true, .write false 2, .close false]).map
      (fun s => s.file.map File.bytes) = some (some [20, 21, 12, 13]) := by decide +kernel
-- the atomic variant: one call renames a complete temporary file into place while the other writes in place
example : (runActs exB 4 (fun f => f.isAll exB 4) (init none)
    [.load false, .load true, .openW false, .write false 2, .replace true, .write false 2, .close false]).map
      (fun s => s.file.map File.bytes) = some (some [10, 11, 12, 13]) := by decide +kernel
end examples

end PymocaVerif.CacheFile
