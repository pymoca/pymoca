import PymocaVerif.Lemmas.DelayCheck
import PymocaVerif.Lemmas.DelaySem
/-!
# C22 — delay durations are validated and delay arguments preserved

Property theorems only (specification functions `delayNodes`, `allNodes`, `srcAtoms`, `evalS`,
`evalL` and helper lemmas live in `Lemmas/DelayWriter.lean`, `Lemmas/DelayCheck.lean` and
`Lemmas/DelaySem.lean`).  All statements are about the executable
model `Model/Delay.lean`, for arbitrary expressions, equation lists and category tables.
-/
namespace PymocaVerif.Delay
open PymocaVerif.Classify (Cat derName delayName)

/-- **args_complete.** The translation records exactly one argument per `delay` call of the
    source, in the order of the generator's walk (initial equations first, operands before the
    call), and numbers the input symbols `_pymoca_delay_0 … _pymoca_delay_{n-1}` consecutively:
    fresh, distinct, one per call — for any nesting, inside and outside for-loops. -/
theorem args_complete (ieqs eqs : List Equation) :
    (translate ieqs eqs).args.map (·.k) = List.range (allNodes ieqs eqs).length ∧
    (translate ieqs eqs).args.map (·.id) = (allNodes ieqs eqs).map (·.1) ∧
    ((translate ieqs eqs).args.map (·.k)).Nodup := by
  rw [translate_args, allNodes_eq, List.length_map, length_ctxNodes, argOfC_numbers, argOfC_ids, List.range_eq_range']
  exact ⟨rfl, rfl, List.nodup_range'⟩

example : (allNodes [.eq (.ref "x") (.delay 7 (.ref "y") (.ref "p"))]
    [.forEq "i" 2 [(.idx "z" (.ref "i"), .delay 8 (.bin .add (.idx "x" (.ref "i")) (.delay 9 (.ref "y") (.lit 1))) (.ref "p"))]]).map
    (·.1) = [7, 9, 8] := by decide

/-- **disallowed_cases.** The duration check objects to exactly: `time`, a variable classified as
    state or algebraic, an input that is not fixed, the derivative of a state, and a delay input. -/
theorem disallowed_cases (c : Cats) (x : Atom) :
    disallowed c x = true ↔
      x = .time ∨ (∃ k, x = .dly k) ∨
      (∃ n, x = .var n ∧ (c.cat n = some .state ∨ c.cat n = some .alg ∨ (c.cat n = some .input ∧ c.fixed n = false))) ∨
      (∃ n, x = .der n ∧ c.cat n = some .state) := by
  cases x with
  | time | dly k | loopIdx n | loopVar | der n => simp [disallowed]
  | var n =>
    simp only [disallowed, reduceCtorEq, false_or, Atom.var.injEq, exists_eq_left']
    cases h : c.cat n with
    | none => simp
    | some k => cases k <;> simp

example : disallowed ⟨fun n => if n = "u" then some .input else none, fun _ => false⟩ (.var "u") = true ∧
    disallowed ⟨fun n => if n = "u" then some .input else none, fun _ => true⟩ (.var "u") = false := by
  decide

/-- **rejects_iff_partial.** When no duration inside a for-loop mentions that loop's variable, the
    model is rejected (`_post_checks` raises) iff some `delay` call of the source — at any
    nesting depth, in initial equations, equations or loop bodies — has a duration that mentions
    a disallowed symbol (a nested `delay` in a duration counts: it is a non-fixed input).
    Missing for the full property: durations that mention the loop variable; for those the
    implementation checks loop-local placeholder symbols instead of the variables (open finding
    C22-F1, see `loop_indexed_duration_escapes`). -/
theorem rejects_iff_partial (c : Cats) (ieqs eqs : List Equation)
    (hi : ∀ q ∈ ieqs, DursLoopFree q) (he : ∀ q ∈ eqs, DursLoopFree q) :
    postCheckFails c (translate ieqs eqs).args = true ↔
      ∃ nd ∈ allNodes ieqs eqs, ∃ x ∈ srcAtoms nd.2.2, disallowed c x = true := by
  rw [postCheckFails_translate, allNodesL_any c hi he, List.any_eq_true]
  simp only [srcKey, List.any_eq_true]

example : DursLoopFree (.forEq "i" 3 [(.idx "z" (.ref "i"), .delay 0 (.idx "x" (.ref "i")) (.bin .mul (.lit 2) (.ref "p")))]) := by
  unfold DursLoopFree
  decide

/-- **accepts_iff_partial.** Under the same hypothesis the duration check passes iff every
    duration of every `delay` call mentions only symbols that are not disallowed — by
    `disallowed_cases`: constants, parameters, fixed inputs (and literals). -/
theorem accepts_iff_partial (c : Cats) (ieqs eqs : List Equation)
    (hi : ∀ q ∈ ieqs, DursLoopFree q) (he : ∀ q ∈ eqs, DursLoopFree q) :
    postCheckFails c (translate ieqs eqs).args = false ↔
      ∀ nd ∈ allNodes ieqs eqs, ∀ x ∈ srcAtoms nd.2.2, disallowed c x = false := by
  rw [← Bool.not_eq_true, rejects_iff_partial c ieqs eqs hi he]
  simp only [not_exists, not_and, Bool.not_eq_true]

example : ∀ q ∈ [Equation.eq (.ref "z") (.delay 0 (.ref "x") (.ref "p"))], DursLoopFree q :=
  List.forall_mem_singleton.2 trivial

/-- The defect behind C22-F1, proved on the model of the code as it is: inside a for-loop a
    duration on the loop-indexed algebraic variable `y[i]` is *not* rejected (the check sees a
    placeholder), and the delay-argument function cannot be built (`freeSymbol`). -/
theorem loop_indexed_duration_escapes :
    verdict ⟨fun n => if n = "y" then some .alg else if n = "x" then some .state else none, fun _ => false⟩
      (translate [] [.forEq "i" 2 [(.idx "z" (.ref "i"), .delay 0 (.idx "x" (.ref "i")) (.idx "y" (.ref "i")))]])
      = .freeSymbol := by decide

example : verdict ⟨fun n => if n = "y" then some .alg else none, fun _ => false⟩
    (translate [] [.eq (.ref "z") (.delay 0 (.ref "x") (.ref "y"))]) = .reject := by decide

/-- **args_preserved.** For equations outside for-loops: give every delayed quantity of the
    source a value `τ id`; if the input symbol of each recorded argument carries the value of
    its node, then every translated equation evaluates like its source equation (each `delay`
    call was replaced by *its own* input), and every recorded argument belongs to a source
    node whose delayed expression and duration it evaluates to — for arbitrarily nested delays,
    initial equations included. -/
theorem args_preserved (ρ : Env) (τ : Nat → Option Rat) (ieqs eqs : List Equation)
    (hi : ∀ q ∈ ieqs, Plain q) (he : ∀ q ∈ eqs, Plain q)
    (hc : ∀ a ∈ (translate ieqs eqs).args, ρ.val (delayName a.k) 0 = τ a.id) :
    (translate ieqs eqs).ieqs.map (evalEq ρ) = ieqs.map (evalSEq ρ τ) ∧
    (translate ieqs eqs).eqs.map (evalEq ρ) = eqs.map (evalSEq ρ τ) ∧
    ∀ a ∈ (translate ieqs eqs).args, ∃ nd ∈ allNodes ieqs eqs, Preserved ρ τ a nd := by
  obtain ⟨h1, h2, h3⟩ := translate_preserved hi he hc
  refine ⟨h1, h2, fun a ha => ?_⟩
  rw [translate_args] at ha
  obtain ⟨x, hx, rfl⟩ := List.mem_map.mp ha
  exact ⟨x.2.2, allNodes_eq ieqs eqs ▸ List.mem_map_of_mem (mem_ctxNodes_of_locatedAll hx), h3 x hx⟩

example : (∀ q ∈ [Equation.eq (.ref "z") (.delay 0 (.bin .add (.ref "x") (.delay 1 (.ref "y") (.lit 1))) (.ref "p"))], Plain q) ∧
    (translate [] [.eq (.ref "z") (.delay 0 (.bin .add (.ref "x") (.delay 1 (.ref "y") (.lit 1))) (.ref "p"))]).args.map (·.id)
      = [1, 0] :=
  ⟨List.forall_mem_singleton.2 trivial, by decide⟩

/-- **rejects_iff_as_implemented.** The full characterisation of the duration check of the code
    as it is, for *every* source (no hypothesis): the model is rejected iff some `delay` call has
    a duration in which — reading references through the loop variable (`y[i]`, `i`, a
    loop-indexed nested delay) as loop-local placeholders, as the generator does — a disallowed
    symbol remains.  Together with `rejects_iff_partial` this isolates the defect C22-F1: the two
    readings differ exactly on durations that mention the loop variable. -/
theorem rejects_iff_as_implemented (c : Cats) (ieqs eqs : List Equation) :
    postCheckFails c (translate ieqs eqs).args = true ↔
      ∃ p ∈ allNodesL ieqs eqs, ∃ x ∈ srcAtomsL p.1 p.2.2.2, disallowed c x = true := by
  rw [postCheckFails_translate, List.any_eq_true]
  simp only [srcKeyL, List.any_eq_true]

example : srcAtomsL (some "i") (.bin .add (.idx "y" (.ref "i")) (.ref "x")) = [.loopIdx "y", .var "x"] ∧
    srcAtomsL none (.bin .add (.idx "y" (.lit 2)) (.ref "x")) = [.var "y", .var "x"] := by
  decide

-- a duration that depends on a disallowed symbol only through a condition, a comparison or a
-- rounding / sign function is rejected all the same: the check is about occurrence, not about derivatives
example : verdict ⟨fun n => if n = "p" then some .param else if n = "x" then some .state else none, fun _ => false⟩
    (translate [] [.eq (.ref "z") (.delay 0 (.ref "x")
        (.ite (.bin .gt (.ref "x") (.lit 0)) (.ref "p") (.bin .mul (.lit 2) (.ref "p"))))]) = .reject ∧
    verdict ⟨fun n => if n = "p" then some .param else none, fun _ => false⟩
    (translate [] [.eq (.ref "z") (.delay 0 (.ref "x") (.bin .add (.un .floor .time) (.lit 1)))]) = .reject ∧
    verdict ⟨fun n => if n = "p" then some .param else none, fun _ => false⟩
    (translate [] [.eq (.ref "z") (.delay 0 (.ref "x") (.un .ceil (.ref "p")))]) = .accept := by decide

/-- The defect behind C22-F2, proved on the model of the code as it is: a loop-indexed delayed
    expression that mentions a scalar (`u`) occurring nowhere else in the loop body trips the
    `assert` of `exitForEquation`, although its duration `p` is a parameter. -/
theorem lonely_symbol_assertion :
    verdict ⟨fun n => if n = "p" then some .param else if n = "x" then some .state else none, fun _ => false⟩
      (translate [] [.forEq "i" 2 [(.idx "z" (.ref "i"),
          .delay 0 (.bin .add (.idx "x" (.ref "i")) (.ref "u")) (.ref "p"))]])
      = .assertionError := by decide

example : verdict ⟨fun n => if n = "p" then some .param else none, fun _ => false⟩
    (translate [] [.forEq "i" 2 [(.idx "z" (.ref "i"),
        .bin .add (.delay 0 (.bin .add (.idx "x" (.ref "i")) (.ref "u")) (.ref "p")) (.ref "u"))]])
    = .accept := by decide

/-- **loop_args_preserved.** For the body of `for v in 1:n`, with arbitrarily nested delays: give
    every delayed quantity a value `τ id c` per iteration `c`; if the input of each recorded
    argument carries it (element `c` of the vector input of a loop-indexed delay, the scalar input
    otherwise), then in every iteration each translated equation evaluates like its source
    equation, and every recorded argument belongs to a source node such that: a loop-indexed
    argument is the vector of the node's delayed expression over the iterations, a scalar one
    evaluates to it, and the duration evaluates (in the iteration's context) to the node's
    duration.  (The delay-argument *function* evaluates the duration outside the loop: that is
    C22-F1 for durations mentioning the loop variable.) -/
theorem loop_args_preserved (ρ : Env) (τ : Nat → Nat → Option Rat) (v : String) (n : Nat)
    (body : List (Expr × Expr)) (s : St)
    (hc : ∀ a ∈ pairArgs (some (v, n)) body s, LoopCons ρ τ n a) :
    (∀ c, 1 ≤ c → c ≤ n →
      (trPairs (some (v, n)) body s).1.map (fun p => (evalL ρ v c p.1, evalL ρ v c p.2)) =
        body.map (fun p => (evalSL ρ τ v c p.1, evalSL ρ τ v c p.2))) ∧
    (∀ a ∈ pairArgs (some (v, n)) body s, ∃ nd ∈ pairNodes body, PreservedL ρ τ v n a nd) ∧
    (trPairs (some (v, n)) body s).2.args = s.args ++ pairArgs (some (v, n)) body s := by
  rw [pairArgs_eq] at hc ⊢
  obtain ⟨h1, h2⟩ := trPairs_preserved hc
  refine ⟨h1, fun a ha => ?_, by rw [trPairs_eq]⟩
  obtain ⟨x, hx, rfl⟩ := List.mem_map.mp ha
  exact ⟨x.2.2, (pair_ctx hx).2, h2 x hx⟩

example : (pairArgs (some ("i", 2)) [(.idx "z" (.ref "i"),
      .delay 0 (.bin .add (.idx "x" (.ref "i")) (.delay 1 (.idx "y" (.ref "i")) (.lit 1))) (.ref "p"))] ⟨0, [], true⟩).map
    (fun a => (a.id, a.vec, a.exprs.length)) = [(1, true, 2), (0, true, 2)] := by decide

/-- **postcheck_invariant_under_substitution.** A simplification pass that substitutes symbols
    (alias elimination, `eliminable_variable_expression`, replacing parameter/constant values) in
    the delayed expressions *and* the durations, and removes the substituted variables from the
    model's lists, does not change the verdict of the duration check — provided every
    replacement mentions a disallowed symbol exactly when the replaced variable was disallowed
    (an alias of an algebraic variable is replaced by an algebraic variable, a state or a
    non-fixed input; a parameter by its value), no state is eliminated and no eliminated name is
    used with a subscript.  So rejection does not depend on these compiler options. -/
theorem postcheck_invariant_under_substitution (c : Cats) (σ : String → Option Expr) (gone : String → Bool)
    (args : List DArg)
    (ok : ∀ a ∈ args, SubstOk c a.lv σ gone)
    (hidx : ∀ a ∈ args, ∀ n ∈ idxNames a.dur, gone n = false) :
    postCheckFails (c.remove gone) (substArgs σ args) = postCheckFails c args := by
  rw [postCheckFails, substArgs, List.any_map]
  exact any_congr_mem fun a ha => (subst_atoms (ok a ha) (hidx a ha)).verdict

example : SubstOk ⟨fun n => if n = "d" ∨ n = "w" then some .alg else none, fun _ => false⟩ none
    (fun n => if n = "d" then some (.un .neg (.ref "w")) else none) (fun n => n == "d") := by
  -- the substitution has the single entry `d ↦ -w`
  have hσ : ∀ n e, (if n = "d" then some (Expr.un .neg (.ref "w")) else none) = some e →
      n = "d" ∧ e = .un .neg (.ref "w") := by
    intro n e h
    split at h
    · next hn => exact ⟨hn, (Option.some.inj h).symm⟩
    · cases h
  refine ⟨fun n => ?_, fun n e h => ?_, fun n e h => ?_, fun n h => ?_⟩
  · by_cases h : n = "d" <;> simp [h]
  · obtain ⟨rfl, rfl⟩ := hσ n e h
    decide
  · obtain ⟨rfl, rfl⟩ := hσ n e h
    decide
  · obtain rfl : n = "d" := beq_iff_eq.1 h
    decide

/-- **postcheck_invariant_under_expansion.** `expand_vectors` replaces every literally
    subscripted reference `x[k]` / `der(x[k])` in the delayed expressions *and in the durations* by
    the scalar symbol of the element, for the arrays of every variable group; if the elements
    inherit the category and fixedness of their array, the duration check gives the same verdict
    before and after — a duration on an element of an array state, derivative or algebraic
    variable stays rejected. -/
theorem postcheck_invariant_under_expansion (c c' : Cats) (h : ExpandsTo c c') (args : List DArg)
    (hlv : ∀ a ∈ args, ∀ n k, a.lv ≠ some (elemName n k)) :
    postCheckFails c' (args.map (fun a => { a with dur := expandRef a.dur })) = postCheckFails c args := by
  rw [postCheckFails, List.any_map]
  exact any_congr_mem fun a ha => (expand_atoms h (hlv a ha) a.dur).verdict

example : atoms none (expandRef (.bin .add (.ref "p") (.idx "as" (.lit 3)))) = [.var "p", .var "as[3]"] ∧
    atoms none (expandRef (.derAt "xs" (.lit 2))) = [.der "xs[2]"] := by
  decide

/-- **cached_calls_agree.** With `cache=True`, any number of successive `transfer_model` calls
    on the same folder give the outcome of compiling the source — a rejected model is rejected
    by every call, because a cache file exists only after a compilation that passed
    `_post_checks`. -/
theorem cached_calls_agree (v : Verdict) (n : Nat) :
    ∀ r ∈ transferCalls (compileResult v) n false, r = compileResult v :=
  transferCalls_agree (compileResult v) n false (by simp)

example : transferCalls (compileResult .reject) 3 false = [.raised, .raised, .raised] ∧
    transferCalls (compileResult .accept) 2 false = [.returned, .returned] := by decide

end PymocaVerif.Delay
