import PymocaVerif.Lemmas.Merge
/-!
# C27 — assembling a library from several files is order-independent

Property theorems over `Model/Merge.lean` (`file_to_tree`, `Tree.extend` / `Class._extend`, the
merge loops of `api._compile_model` and `compiler.parse_all`), for any number of files, any
nesting depth and any number of classes.

"Equal up to the order of sibling classes" is `Equiv`: the same payload at every class path
(for trees that satisfy the dictionary invariant `Wf` this determines the tree up to the order
of the keys of each `classes` dictionary; name lookup — `classes[name]` — does not see that order).

* With `fill ph` (the code as it is, since commit 07f5409 = `proposed_fixes/C27-1.diff`) the
  property holds for every split whose class paths have their payload defined at most once
  (`extend_comm_assoc`, `defined_payload_survives`).
* With `keepFirst` (the code before that commit) it holds only when no `within` placeholder
  meets a definition (`extend_order_independent_old_partial`); `old_first_file_wins` and
  `old_within_before_package_loses_payload` are finding C27-F1 (fixed) on the model: the commit
  is necessary.
* `flatten_order_independent` needs the observation to respect `Equiv`.  Name lookup does
  (`lookup_order_independent`); `tree.flatten` of a class that *contains* nested classes does not
  always (open finding C27-F2, found by the direct oracle: it visits the nested classes in
  dictionary order and one that fails on its own makes the outcome depend on that order).
-/
namespace PymocaVerif.Merge

variable {α : Type}

/-- After `self.extend(other)` the payload at every class path is the combination of the two
    payloads at that path (nothing is lost, nothing appears), at any depth. -/
theorem payload_after_extend (mp : α → α → α) (self other : Forest α) (hw : Wf other)
    (path : List String) :
    get (extend mp self other) path = omerge mp (get self path) (get other path) :=
  get_extend hw path

example : Wf (Forest.cons "P" 1 (.cons "M" 2 .nil .nil) .nil) := by simp [Wf, names]

/-- `extend` keeps the dictionary invariant (distinct sibling names at every level), so the
    theorems apply to every intermediate tree of a merge of any length. -/
theorem extend_keeps_wf (mp : α → α → α) (self other : Forest α) (hs : Wf self) (ho : Wf other) :
    Wf (extend mp self other) := by
  unfold extend
  induction other generalizing self with
  | nil => exact hs
  | cons n p ks rest ihk ihr =>
    obtain ⟨_, hks, hrest⟩ := ho
    exact ihr _ (wf_iom (fun _ hjs => ihk _ hjs hks) hks hs) hrest

/-- Starting from the first file's tree (`api._compile_model`) or from an empty tree
    (`compiler.parse_all`) gives the same library. -/
theorem both_walks_agree (mp : α → α → α) (fs : List (Forest α)) (hw : ∀ f ∈ fs, Wf f) :
    mergeAllFromEmpty mp fs = mergeAll mp fs := by
  cases fs with
  | nil => rfl
  | cons f fs =>
    simp only [mergeAllFromEmpty, mergeAll, List.foldl_cons]
    rw [extend_nil (hw f List.mem_cons_self)]

/-- **Order independence** (the code as it is): if every class path has its payload
    defined at most once among the files (placeholders of `within` clauses and empty packages
    do not count), merging the files in any two orders gives trees that are equal up to the
    order of sibling classes. -/
theorem extend_comm_assoc [DecidableEq α] (ph : α) (fs fs' : List (Forest α)) (hp : fs.Perm fs')
    (hw : ∀ f ∈ fs, Wf f)
    (hd : ∀ path, DefinedOnce ph (fs.map (fun f => get f path))) :
    Equiv (mergeAll (fill ph) fs) (mergeAll (fill ph) fs') :=
  equiv_mergeAll_of_perm hp hw fun path _ hm => combine_fill_congr hm (hd path)

/-- The case that decides whether payload survives: a definition of a class
    (for instance a package's own file with its constants) wins over any number of `within`
    placeholders for the same path, wherever it stands in the merge order. -/
theorem defined_payload_survives [DecidableEq α] (ph : α) (fs : List (Forest α))
    (hw : ∀ f ∈ fs, Wf f) (path : List String)
    (hd : DefinedOnce ph (fs.map (fun f => get f path)))
    (f : Forest α) (hf : f ∈ fs) (v : α) (hv : get f path = some v) (hne : v ≠ ph) :
    get (mergeAll (fill ph) fs) path = some v := by
  rw [get_mergeAll hw]
  exact (combine_fill_eq_some hd v).mpr ⟨List.mem_map.mpr ⟨f, hf, hv⟩, fun e => absurd e hne⟩

/-- Anything computed from the merged tree by name lookup only (it respects `Equiv`) — the
    flattened model of each class — is the same for every file order. -/
theorem flatten_order_independent [DecidableEq α] {β : Type} (ph : α) (obs : Forest α → β)
    (hobs : ∀ a b, Equiv a b → obs a = obs b)
    (fs fs' : List (Forest α)) (hp : fs.Perm fs') (hw : ∀ f ∈ fs, Wf f)
    (hd : ∀ path, DefinedOnce ph (fs.map (fun f => get f path))) :
    obs (mergeAll (fill ph) fs) = obs (mergeAll (fill ph) fs') :=
  hobs _ _ (extend_comm_assoc ph fs fs' hp hw hd)

-- non-vacuity: a package with a constant in its own file, and a `within P;` file with a model
example : let own : Forest Nat := .cons "P" 7 (.cons "Base" 3 .nil .nil) .nil
    let wth : Forest Nat := fileToTree 0 ["P"] (.cons "M1" 4 .nil .nil)
    Wf own ∧ Wf wth ∧ get (mergeAll (fill 0) [wth, own]) ["P"] = some 7
      ∧ get (mergeAll (fill 0) [own, wth]) ["P"] = some 7
      ∧ get (mergeAll (fill 0) [wth, own]) ["P", "M1"] = some 4 := by
  exact ⟨by simp [Wf, names], wf_fileToTree.mpr (by simp [Wf, names]), rfl, rfl, rfl⟩

/-- **The code before 07f5409**: the payload at a path is the one of the *first* file, in merge
    order, that contains the path at all — definition or placeholder. -/
theorem old_first_file_wins (fs : List (Forest α)) (hw : ∀ f ∈ fs, Wf f) (path : List String) :
    get (mergeAll keepFirst fs) path = (fs.map (fun f => get f path)).findSome? id := by
  rw [get_mergeAll hw, combine_keepFirst]

/-- Before 07f5409 order independence held when all files that contain a path agree on its payload,
    placeholders included.  *Missing for the full property:* a path that is a `within`
    placeholder in one file and defined in another (C27-F1); see
    `old_within_before_package_loses_payload`. -/
theorem extend_order_independent_old_partial (fs fs' : List (Forest α)) (hp : fs.Perm fs')
    (hw : ∀ f ∈ fs, Wf f)
    (ha : ∀ path v w, some v ∈ fs.map (fun f => get f path) →
            some w ∈ fs.map (fun f => get f path) → v = w) :
    Equiv (mergeAll keepFirst fs) (mergeAll keepFirst fs') :=
  equiv_mergeAll_of_perm hp hw fun path _ hm => combine_congr_of_selective keepFirst_selective hm (ha path)

example : (∀ f ∈ [Forest.cons "P" 0 (.cons "A" 1 .nil .nil) .nil, Forest.cons "P" 0 (.cons "B" 2 .nil .nil) .nil],
    Wf f) := by simp [Wf, names]

/-- C27-F1 on the model: before 07f5409, a `within P;` file merged before `P`'s own file leaves `P`
    with the placeholder's payload; merged after it, `P` keeps its own payload. -/
theorem old_within_before_package_loses_payload (ph v : α) (P : String) (cs ks : Forest α) :
    get (mergeAll keepFirst [fileToTree ph [P] cs, .cons P v ks .nil]) [P] = some ph ∧
    get (mergeAll keepFirst [.cons P v ks .nil, fileToTree ph [P] cs]) [P] = some v := by
  simp [mergeAll, extend, extendBy, iom, fileToTree, get, find, keepFirst]

/-- Name lookup (`_find_class` without imports: own classes, then the enclosing classes outwards)
    gives the same class for trees that are equal up to sibling order — the lookups flattening is
    built on do not see the merge order. -/
theorem lookup_order_independent (a b : Forest α) (h : Equiv a b) (ref scopeRev : List String) :
    findClass a ref scopeRev = findClass b ref scopeRev := by
  induction scopeRev with
  | nil => simp only [findClass, h ref]
  | cons n up ih => simp only [findClass, ih, h _]

example : findClass (Forest.cons "P" 1 (.cons "Q" 2 (.cons "M" 3 .nil .nil) (.cons "B" 4 .nil .nil)) .nil)
    ["B"] ["Q", "P"] = some ["P", "B"] := by
  decide +kernel

/-- `file_to_tree`: below the `within` path the file's own classes are found unchanged. -/
theorem get_fileToTree_below (ph : α) (w : List String) (cs : Forest α) (q : List String)
    (hq : q ≠ []) : get (fileToTree ph w cs) (w ++ q) = get cs q := by
  induction w with
  | nil => rfl
  | cons n w ih =>
    have hne : w ++ q ≠ [] := by simp [hq]
    rw [fileToTree_cons, List.cons_append, get_cons_self hne]
    exact ih

/-- `file_to_tree`: every non-empty prefix of the `within` path is a placeholder package. -/
theorem get_fileToTree_prefix (ph : α) (w1 w2 : List String) (cs : Forest α) (h1 : w1 ≠ []) :
    get (fileToTree ph (w1 ++ w2) cs) w1 = some ph := by
  induction w1 with
  | nil => exact absurd rfl h1
  | cons n w ih =>
    rw [List.cons_append, fileToTree_cons]
    by_cases hw : w = []
    · subst hw
      simp [get, find]
    · rw [get_cons_self hw]
      exact ih hw

example : get (fileToTree 0 ["P", "Q"] (Forest.cons "M" 5 .nil .nil)) ["P", "Q", "M"] = some 5 := by
  decide +kernel

end PymocaVerif.Merge
