import PymocaVerif.Lemmas.Index
/-!
# C23 — out-of-range array subscripts are rejected, never reinterpreted

Property theorems only (helper lemmas: `Lemmas/Index.lean`; model and the specification-side definitions
`FSub.denote`, `InRange`, `pos`, `Safe`, `LoopSafe`: `Model/Index.lean`).

Every statement is for all dimension sizes `n`, all written integers and all loop value lists.
`Safe cfg s` / `LoopSafe cfg …` name the subscripts on which the checks present in the tree (`cfg`) suffice.
On the tree as it is now (`Cfg.checked`, commits 4aad8e2 and b779a95) they hold for every subscript
(`checked_is_safe`, `checked_is_loop_safe`), so the three main theorems hold there without hypothesis
(`checked_*`).  On the tree before those commits (`Cfg.asIs`) they exclude exactly the classes recorded as
findings C23-F1..F3, and `asIs_reinterprets` shows that they could not be dropped there.
The end-to-end theorems `eq_*` / `loop_1d_*` / `loop_2d_*` are stated for the current tree; they are the
instances at `Cfg.checked` of `outcome_*` (`Lemmas/Index.lean`), which need only `Safe` / `LoopSafe` and
three-part ranges read as `start:step:stop`.
-/
namespace PymocaVerif.Index

/-- An accepted subscript selects exactly the elements it denotes, all of them inside `1..n`. -/
theorem in_range_or_error (cfg : Cfg) (n : Nat) (s : FSub) (ps : List Nat) (hsafe : Safe cfg s)
    (h : fixedSel cfg n n s = some ps) :
    ∃ d, s.denote n = some d ∧ InRange n d ∧ ps = pos d :=
  fixedSel_sound hsafe h

example : Safe Cfg.asIs (.range (.lit 2) (.lit 3)) ∧ fixedSel Cfg.asIs 4 4 (.range (.lit 2) (.lit 3)) = some [1, 2] :=
  ⟨Or.inr (by decide), by decide⟩

/-- A subscript that denotes an index outside `1..n` (or is ill-formed: step 0) makes generation raise. -/
theorem out_of_range_error (cfg : Cfg) (n : Nat) (s : FSub) (hsafe : Safe cfg s)
    (h : s.denote n = none ∨ ∃ d, s.denote n = some d ∧ ∃ i ∈ d, i < 1 ∨ (n : Int) < i) :
    fixedSel cfg n n s = none :=
  fixedSel_oob hsafe h

example : ∃ d, (FSub.range (.lit 2) (.lit 5)).denote 4 = some d ∧ ∃ i ∈ d, i < 1 ∨ ((4 : Nat) : Int) < i :=
  ⟨[2, 3, 4, 5], by decide, 5, by decide, by decide⟩

/-- An accepted subscript selects nothing only if it denotes nothing. -/
theorem never_empty_silently (cfg : Cfg) (n : Nat) (s : FSub) (hsafe : Safe cfg s)
    (h : fixedSel cfg n n s = some []) : s.denote n = some [] := by
  obtain ⟨d, hd, _, hp⟩ := fixedSel_sound hsafe h
  rw [hd, List.map_eq_nil_iff.1 hp.symm]

example : fixedSel Cfg.asIs 3 3 (.range (.lit 3) (.lit 2)) = some [] ∧ Safe Cfg.asIs (.range (.lit 3) (.lit 2)) :=
  ⟨by decide, Or.inr (by decide)⟩

/-- Integer subscripts are checked on every variant of the tree: outside `1..n` is an error. -/
theorem integer_subscript_error (cfg : Cfg) (n : Nat) (k : IntS) (h : k.val < 1 ∨ (n : Int) < k.val) :
    fixedSel cfg n n (.idx k) = none :=
  fixedSel_oob trivial (Or.inr ⟨[k.val], rfl, k.val, List.mem_singleton.2 rfl, h⟩)

example : (IntS.lit 0).val < 1 ∨ ((3 : Nat) : Int) < (IntS.lit 0).val := Or.inl (by decide)

/-- A non-empty slice whose upper bound exceeds the dimension is an error on every variant of the tree. -/
theorem slice_upper_bound_error (cfg : Cfg) (n : Nat) (lo hi : IntS) (hne : lo.val ≤ hi.val)
    (h : (n : Int) < hi.val) : fixedSel cfg n n (.range lo hi) = none := by
  cases hsel : fixedSel cfg n n (.range lo hi) with
  | none => rfl
  | some ps =>
    have hs := fixedSel_range_some hsel
    rw [sliceSel_last_beyond cfg Nat.one_pos hne (by
      rw [lastOf_one]
      exact h)] at hs
    cases hs

example : (IntS.lit 1).val ≤ (IntS.lit 4).val ∧ ((3 : Nat) : Int) < (IntS.lit 4).val := by decide

/-- On the current tree every subscript is `Safe`: the three theorems above hold without hypothesis. -/
theorem checked_is_safe (s : FSub) : Safe Cfg.checked s := by
  cases s with
  | idx k => trivial
  | all => trivial
  | range lo hi => exact Or.inl rfl
  | range3 a b c => exact ⟨rfl, Or.inl rfl⟩

/-- Current tree, full strength: an accepted subscript selects exactly what it denotes, inside `1..n`. -/
theorem checked_in_range_or_error (n : Nat) (s : FSub) (ps : List Nat)
    (h : fixedSel Cfg.checked n n s = some ps) : ∃ d, s.denote n = some d ∧ InRange n d ∧ ps = pos d :=
  fixedSel_sound (checked_is_safe s) h

example : fixedSel Cfg.checked 4 4 (.range3 (.lit 1) (.lit 2) (.lit 4)) = some [0, 2] := by decide

/-- Current tree, full strength: every subscript that denotes an index outside `1..n`, or has step 0, raises. -/
theorem checked_out_of_range_error (n : Nat) (s : FSub)
    (h : s.denote n = none ∨ ∃ d, s.denote n = some d ∧ ∃ i ∈ d, i < 1 ∨ (n : Int) < i) :
    fixedSel Cfg.checked n n s = none :=
  fixedSel_oob (checked_is_safe s) h

example : (FSub.range (.par (-1)) (.lit 2)).denote 3 = some [-1, 0, 1, 2] := by decide

/-- Current tree, full strength: nothing is selected only when nothing is denoted. -/
theorem checked_never_empty_silently (n : Nat) (s : FSub) (h : fixedSel Cfg.checked n n s = some []) :
    s.denote n = some [] :=
  never_empty_silently Cfg.checked n s (checked_is_safe s) h

example : fixedSel Cfg.checked 3 3 (.range (.lit 5) (.lit 4)) = some [] := by decide

/-- A loop-dependent subscript `mul*i + off` that is accepted reads, at every loop value, the element it
    denotes, and every such element exists. -/
theorem loop_in_range_or_error (cfg : Cfg) (n : Nat) (vals : List Int) (mul off : Int) (ps : List Nat)
    (hsafe : LoopSafe cfg vals mul off) (h : loopIdxSel cfg n n vals mul off = some ps) :
    InRange n (vals.map (fun v => mul * v + off)) ∧ ps = pos (vals.map (fun v => mul * v + off)) :=
  loopIdxSel_sound hsafe h

example : LoopSafe Cfg.asIs [1, 2] 1 1 ∧ loopIdxSel Cfg.asIs 3 3 [1, 2] 1 1 = some [1, 2] :=
  ⟨Or.inr (by decide), by decide⟩

/-- A loop-dependent subscript that leaves `1..n` at some loop value makes generation raise. -/
theorem loop_out_of_range_error (cfg : Cfg) (n : Nat) (vals : List Int) (mul off : Int)
    (hsafe : LoopSafe cfg vals mul off)
    (h : ∃ v ∈ vals, mul * v + off < 1 ∨ (n : Int) < mul * v + off) :
    loopIdxSel cfg n n vals mul off = none :=
  loopIdxSel_oob hsafe h

example : LoopSafe Cfg.asIs [1, 2, 3] 1 1 ∧ ∃ v ∈ [1, 2, 3], (1 : Int) * v + 1 < 1 ∨ ((3 : Nat) : Int) < 1 * v + 1 :=
  ⟨Or.inr (by decide), 3, by decide, by decide⟩

theorem checked_is_loop_safe (vals : List Int) (mul off : Int) : LoopSafe Cfg.checked vals mul off :=
  Or.inl rfl

/-- End to end, current tree, `x[s]` on `Real x[n]` in an equation: if generation succeeds the residual holds
    exactly the denoted elements, in order (an empty selection discards the equation: `norm`). -/
theorem eq_1d_sound (n : Nat) (s : FSub) (rows : List (List Pos))
    (h : outcome Cfg.checked ⟨.d1 n, .f1 s, none⟩ = some rows) :
    ∃ d, s.denote n = some d ∧ InRange n d ∧ rows = norm ((pos d).map (fun p => [(p, 0)])) :=
  outcome_1d_sound (checked_is_safe s) h

/-- End to end: a subscript that must be rejected makes generation of the model raise. -/
theorem eq_1d_error (n : Nat) (s : FSub) (h : Bad n s) : outcome Cfg.checked ⟨.d1 n, .f1 s, none⟩ = none :=
  outcome_1d_error (checked_is_safe s) h

/-- End to end, `x[a, b]` on `Real x[n, m]`: the residual is the sub-matrix of the denoted rows and columns. -/
theorem eq_2d_sound (n m : Nat) (a b : FSub) (rows : List (List Pos))
    (h : outcome Cfg.checked ⟨.d2 n m, .ff a b, none⟩ = some rows) :
    ∃ da db, a.denote n = some da ∧ b.denote m = some db ∧ InRange n da ∧ InRange m db ∧
      rows = norm (mat2 (pos da) (pos db)) :=
  outcome_2d_sound (checked_is_safe a) (checked_is_safe b) h

/-- End to end: a bad subscript in either dimension makes generation raise. -/
theorem eq_2d_error (n m : Nat) (a b : FSub) (h : Bad n a ∨ Bad m b) :
    outcome Cfg.checked ⟨.d2 n m, .ff a b, none⟩ = none :=
  outcome_2d_error (checked_is_safe a) (checked_is_safe b) h

/-- End to end, `for i in r loop x[mul*i+off] = … end for`: the loop runs over Modelica's values of the range
    and the residual's rows are the elements denoted at each value, all of them existing. -/
theorem loop_1d_sound (n : Nat) (r : LoopRange) (mul off : Int) (hm : mul ≠ 0) (rows : List (List Pos))
    (h : outcome Cfg.checked ⟨.d1 n, .l1 mul off, some r⟩ = some rows) :
    ∃ vals, r.denote = some vals ∧ InRange n (vals.map (fun v => mul * v + off)) ∧
      rows = norm ((pos (vals.map (fun v => mul * v + off))).map (fun p => [(p, 0)])) :=
  outcome_loop_1d_sound rfl hm (fun vals _ => checked_is_loop_safe vals mul off) h

/-- End to end: a loop-dependent subscript leaving `1..n` at some value of the range makes generation raise. -/
theorem loop_1d_error (n : Nat) (r : LoopRange) (mul off : Int) (hm : mul ≠ 0) (vals : List Int)
    (hd : r.denote = some vals) (h : ∃ v ∈ vals, mul * v + off < 1 ∨ (n : Int) < mul * v + off) :
    outcome Cfg.checked ⟨.d1 n, .l1 mul off, some r⟩ = none :=
  outcome_loop_1d_error rfl hm hd (checked_is_loop_safe vals mul off) h

/-- End to end, `x[mul*i+off, b]` in a loop over `r`: each iteration's row holds the denoted row index with the
    denoted columns (nothing at all when `b` denotes nothing). -/
theorem loop_2d_row_sound (n m : Nat) (r : LoopRange) (mul off : Int) (hm : mul ≠ 0) (b : FSub)
    (rows : List (List Pos)) (h : outcome Cfg.checked ⟨.d2 n m, .lf mul off b, some r⟩ = some rows) :
    ∃ vals db, r.denote = some vals ∧ b.denote m = some db ∧ InRange m db ∧
      ((db = [] ∧ rows = []) ∨
       (InRange n (vals.map (fun v => mul * v + off)) ∧
        rows = norm ((pos (vals.map (fun v => mul * v + off))).map (fun r => (pos db).map (fun c => (r, c)))))) :=
  outcome_loop_row_sound rfl hm (checked_is_safe b) (fun vals _ => checked_is_loop_safe vals mul off) h

/-- End to end, `x[a, mul*i+off]` in a loop over `r`. -/
theorem loop_2d_col_sound (n m : Nat) (r : LoopRange) (a : FSub) (mul off : Int) (hm : mul ≠ 0)
    (rows : List (List Pos)) (h : outcome Cfg.checked ⟨.d2 n m, .fl a mul off, some r⟩ = some rows) :
    ∃ vals da, r.denote = some vals ∧ a.denote n = some da ∧ InRange n da ∧
      ((da = [] ∧ rows = []) ∨
       (InRange m (vals.map (fun v => mul * v + off)) ∧
        rows = norm ((pos (vals.map (fun v => mul * v + off))).map (fun c => (pos da).map (fun r => (r, c)))))) :=
  outcome_loop_col_sound rfl hm (checked_is_safe a) (fun vals _ => checked_is_loop_safe vals mul off) h

example : outcome Cfg.checked ⟨.d1 3, .f1 (.range (.lit 2) (.lit 3)), none⟩ = some [[(1, 0)], [(2, 0)]] := by decide
example : Bad 3 (.range (.lit 0) (.lit 2)) := Or.inr ⟨[0, 1, 2], by decide, 0, by decide, by decide⟩
example : outcome Cfg.checked ⟨.d2 2 3, .ff (.idx (.lit 2)) (.range (.lit 2) (.lit 3)), none⟩
    = some [[(1, 1), (1, 2)]] := by decide
example : outcome Cfg.checked ⟨.d1 3, .l1 1 (-1), some (.two (.lit 2) (.lit 3))⟩ = some [[(0, 0)], [(1, 0)]] := by
  decide
example : outcome Cfg.checked ⟨.d1 3, .l1 1 (-1), some (.two (.lit 1) (.lit 3))⟩ = none := by decide
example : outcome Cfg.checked ⟨.d2 2 3, .lf 1 0 (.range (.lit 1) (.lit 2)), some (.two (.lit 1) (.lit 2))⟩
    = some [[(0, 0), (0, 1)], [(1, 0), (1, 1)]] := by decide
example : outcome Cfg.checked ⟨.d2 2 3, .fl .all 1 1, some (.two (.lit 1) (.lit 2))⟩
    = some [[(0, 1), (1, 1)], [(0, 2), (1, 2)]] := by decide

/-- Finding C23-F4 (fixed by 8f5c8e6): without padding a single subscript on a 2-D array indexes the storage linearly —
    `x[2]` on `Real x[2,3]` is the element `x[2,1]`, and `x[1:2]` two elements of the first column. -/
theorem single_subscript_is_linear :
    outcome Cfg.checked ⟨.d2 2 3, .f1 (.idx (.lit 2)), none⟩ = some [[(1, 0)]] ∧
    outcome Cfg.checked ⟨.d2 2 3, .f1 (.range (.lit 1) (.lit 2)), none⟩ = some [[(0, 0)], [(1, 0)]] := by
  decide

/-- With the padding of missing subscripts (C23-3, the current tree) a single subscript on `Real x[n, m]` selects whole rows: exactly the
    denoted rows, all of them existing, each with all `m` columns. -/
theorem padded_single_subscript_selects_rows (n m : Nat) (a : FSub) (rows : List (List Pos))
    (h : outcomePadded Cfg.checked ⟨.d2 n m, .f1 a, none⟩ = some rows) :
    ∃ da, a.denote n = some da ∧ InRange n da ∧ rows = norm (mat2 (pos da) (pos (upRange 1 1 m))) := by
  obtain ⟨da, db, hda, hdb, hra, _, hrows⟩ := eq_2d_sound n m a .all rows h
  cases hdb
  exact ⟨da, hda, hra, hrows⟩

example : outcomePadded Cfg.checked ⟨.d2 2 3, .f1 (.idx (.lit 2)), none⟩ = some [[(1, 0), (1, 1), (1, 2)]] := by decide

/-- …and a bad single subscript is rejected. -/
theorem padded_single_subscript_error (n m : Nat) (a : FSub) (h : Bad n a) :
    outcomePadded Cfg.checked ⟨.d2 n m, .f1 a, none⟩ = none :=
  eq_2d_error n m a .all (Or.inl h)

example : Bad 2 (.idx (.lit 3)) := Or.inr ⟨[3], rfl, 3, List.mem_singleton.2 rfl, by decide⟩

/-- References through components (`d.v[…]`, `c[…].v[…]`, any depth): more subscripts on one part of the name
    than that part has dimensions — in particular any subscript on a scalar part — makes generation raise,
    whatever the other parts hold and whatever the values of the subscripts are. -/
theorem too_many_subscripts_at_a_level_error (cfg : Cfg) (pre post : List Level) (l : Level)
    (h : l.dims.length < l.subs.length) (loop : Option LoopRange) :
    outcomeNested cfg (pre ++ l :: post) loop = none := by
  unfold outcomeNested
  rw [padLevels_none pre post l (if_pos h)]

example : (⟨[3], [.fixed (.idx (.lit 2)), .fixed (.idx (.lit 5))]⟩ : Level).dims.length
    < (⟨[3], [.fixed (.idx (.lit 2)), .fixed (.idx (.lit 5))]⟩ : Level).subs.length := by decide

/-- A reference `c[a].v[b]` (one dimension on each of two parts) is the 2-D reference `x[a, b]` on the
    flattened symbol, so `eq_2d_sound` / `eq_2d_error` apply to it. -/
theorem nested_two_parts_is_2d (cfg : Cfg) (n m : Nat) (a b : FSub) (loop : Option LoopRange) :
    outcomeNested cfg [⟨[n], [.fixed a]⟩, ⟨[m], [.fixed b]⟩] loop = outcome cfg ⟨.d2 n m, .ff a b, loop⟩ :=
  rfl

/-- …and `d.v[b]` on a scalar component is the 1-D reference `x[b]`. -/
theorem nested_scalar_component_is_1d (cfg : Cfg) (m : Nat) (b : FSub) (loop : Option LoopRange) :
    outcomeNested cfg [⟨[], []⟩, ⟨[m], [.fixed b]⟩] loop = outcome cfg ⟨.d1 m, .f1 b, loop⟩ :=
  rfl

example : outcomeNested Cfg.checked [⟨[2], [.fixed (.idx (.lit 1))]⟩, ⟨[3], [.fixed (.idx (.lit 2))]⟩] none
    = some [[(0, 1)]] := by decide
example : outcomeNested Cfg.checked [⟨[], []⟩, ⟨[3], [.fixed (.idx (.lit 2)), .fixed (.idx (.lit 5))]⟩] none = none := by
  decide

/-- Several references in one equation (stencils such as `x[i+1] - x[i-1]`): generation raises exactly when
    one of the references, taken on its own, raises — no reference is covered by another one's check. -/
theorem each_reference_is_checked (cfg : Cfg) (c₁ c₂ : Case) :
    outcomePair cfg c₁ c₂ = none ↔ outcomePadded cfg c₁ = none ∨ outcomePadded cfg c₂ = none := by
  unfold outcomePair
  cases outcomePadded cfg c₁ <;> cases outcomePadded cfg c₂ <;> simp

/-- …and when it succeeds each reference contributes exactly the elements it selects on its own. -/
theorem each_reference_selects_its_own (cfg : Cfg) (c₁ c₂ : Case) (rows : List (List Pos))
    (h : outcomePair cfg c₁ c₂ = some rows) :
    ∃ r₁ r₂, outcomePadded cfg c₁ = some r₁ ∧ outcomePadded cfg c₂ = some r₂ ∧ rows = joinRows r₁ r₂ := by
  unfold outcomePair at h
  split at h
  · next r₁ r₂ h₁ h₂ => exact ⟨r₁, r₂, h₁, h₂, (Option.some.inj h).symm⟩
  · cases h

example : outcomePair Cfg.checked ⟨.d1 5, .l1 1 1, some (.two (.lit 2) (.lit 4))⟩ ⟨.d1 5, .l1 1 (-1), some (.two (.lit 2) (.lit 4))⟩
    = some [[(2, 0), (0, 0)], [(3, 0), (1, 0)], [(4, 0), (2, 0)]] := by decide
example : outcomePair Cfg.checked ⟨.d1 5, .l1 1 1, some (.two (.lit 1) (.lit 4))⟩ ⟨.d1 5, .l1 1 (-1), some (.two (.lit 1) (.lit 4))⟩
    = none := by decide

/-- A subscript on a scalar always makes generation raise. -/
theorem scalar_subscript_error (cfg : Cfg) (s : Subs) (l : Option LoopRange) :
    outcome cfg ⟨.scalar, s, l⟩ = none :=
  outcome_none rfl (fun _ => rfl)

/-- More subscripts than dimensions always make generation raise. -/
theorem too_many_subscripts_error (cfg : Cfg) (n m : Nat) (a b : FSub) (mul off : Int) (l : Option LoopRange) :
    outcome cfg ⟨.d1 n, .ff a b, l⟩ = none ∧ outcome cfg ⟨.d1 n, .lf mul off b, l⟩ = none ∧
    outcome cfg ⟨.d1 n, .fl a mul off, l⟩ = none ∧ outcome cfg ⟨.d1 n, .more, l⟩ = none ∧
    outcome cfg ⟨.d2 n m, .more, l⟩ = none :=
  ⟨outcome_none rfl (fun _ => rfl), outcome_none rfl (fun _ => rfl), outcome_none rfl (fun _ => rfl),
    outcome_none rfl (fun _ => rfl), outcome_none rfl (fun _ => rfl)⟩

/-- The hypotheses `Safe` / `LoopSafe` could not be dropped on the tree before the fixes (findings C23-F1, F2, F3):
    `x[0:2]` on `Real x[3]` selects nothing, `x[0:3]` selects `x[3]`, `x[2:p]` with `p = -1` selects `x[2]`,
    `x[i-1]` over `i = 1, 2, 3` reads `x[3], x[1], x[2]`, `x[1:2:3]` on `Real x[4]` selects `x[1]` only. -/
theorem asIs_reinterprets :
    fixedSel Cfg.asIs 3 3 (.range (.lit 0) (.lit 2)) = some [] ∧
    fixedSel Cfg.asIs 3 3 (.range (.lit 0) (.lit 3)) = some [2] ∧
    fixedSel Cfg.asIs 3 3 (.range (.lit 2) (.par (-1))) = some [1] ∧
    loopIdxSel Cfg.asIs 3 3 [1, 2, 3] 1 (-1) = some [2, 0, 1] ∧
    fixedSel Cfg.asIs 4 4 (.range3 (.lit 1) (.lit 2) (.lit 3)) = some [0] ∧
    (FSub.range3 (.lit 1) (.lit 2) (.lit 3)).denote 4 = some [1, 3] := by
  decide

/-- …and the same inputs are rejected, respectively read as Modelica says, on the current tree. -/
theorem checked_rejects_them :
    fixedSel Cfg.checked 3 3 (.range (.lit 0) (.lit 2)) = none ∧
    fixedSel Cfg.checked 3 3 (.range (.lit 0) (.lit 3)) = none ∧
    fixedSel Cfg.checked 3 3 (.range (.lit 2) (.par (-1))) = some [] ∧
    loopIdxSel Cfg.checked 3 3 [1, 2, 3] 1 (-1) = none ∧
    fixedSel Cfg.checked 4 4 (.range3 (.lit 1) (.lit 2) (.lit 3)) = some [0, 2] := by
  decide

end PymocaVerif.Index
