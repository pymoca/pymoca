import PymocaVerif.Lemmas.GenFunc
import PymocaVerif.Model.RatPrims
/-!
# C11 — the DAE residual equals the Modelica meaning of the flat equations

Property theorems only; helper lemmas are in `Lemmas/Gen*.lean`.  Models: `Model/ExprSem.lean` (the
Modelica meaning `evalM`, `residualM`, `funcSem` over an arbitrary carrier `K` with arbitrary
primitives `Prims K`) and `Model/Gen.lean` (what `generator.py` builds, `gen`/`genMEq`/`genFunc`, and what
CasADi computes for it, `evalC`).  `Refines x y` = wherever the meaning `y` is defined, the generated
term `x` is defined and has the same value.  Every statement quantifies over all expressions /
equations / functions of the model's types (no bound on size or depth), all environments and all
interpretations of the primitives.
-/
namespace PymocaVerif.Gen
open PymocaVerif.ExprSem PymocaVerif.RatPrims

/-- **Translation of expressions is correct** (`exitExpression`, `exitIfExpression`, calls): the term
    generated for a flat expression evaluates, at every point, to the Modelica meaning of the
    expression — for every operator mapping through `OP_MAP`, the unary special cases, `not`,
    `* ↦ mtimes`, the element-wise forms, if-expressions of any length and calls of user functions
    whose translations are correct (`TabOK`).  Structural induction over the expression. -/
theorem gen_correct (P : Prims K) (o : Opts) (T : FTab K) (F : FSem K) (hT : TabOK P T F)
    (hS : NoShadow T) (e : MExpr K) (c : CTerm K) (h : gen P o T e = .ok c) (ρ : Env K) :
    Refines (evalC P ρ c) (evalM P F ρ e) :=
  gen_refines hT hS e h ρ

example : ∃ c, gen ratPrims {} (fun _ => none)
      (.bin .div (.bin .pow (.ref "x" []) (.num 2)) (.un .neg (.num (4 : Rat)))) = .ok c ∧
    evalC ratPrims ⟨fun _ => some [3], fun _ => none, fun _ => none⟩ c = some [(-9 : Rat) / 4] := by
  refine ⟨_, rfl, ?_⟩
  decide +kernel

/-- **Every expression of the supported subset is translatable** (division and power included): an
    expression built from literals, references, every Modelica operator other than `<>`, the elementary
    functions `MX` knows by their Modelica name, if-expressions of any length and calls of functions that
    translate (`supported`), is accepted by `gen` — for all options and tables. -/
theorem gen_total (P : Prims K) (o : Opts) (T : FTab K) (e : MExpr K) (h : supported T e = true) :
    ∃ c, gen P o T e = .ok c :=
  gen_total_aux P o T e h

example : supported (fun _ => none : FTab Rat)
    (.ife (.cons (.bin .le (.ref "x" []) (.num 1)) (.bin .div (.num 1) (.num 2))
      (.last (.un (.elem .sqrt) (.bin .pow (.ref "x" []) (.num 2)))))) = true := by decide

/-- What lies outside: Modelica's `<>` has no `OP_MAP` entry and `MX` no attribute of that name, so with
    no user function called `<>` (here: the empty table) it is rejected with "Unknown function".  The
    inverse trigonometric functions take the same way out through `userCall` (`genUn`, `hasMeth`). -/
theorem ne_is_rejected (P : Prims K) (o : Opts) (a b : MExpr K) (ta tb : CTerm K)
    (ha : gen P o (fun _ => none) a = .ok ta) (hb : gen P o (fun _ => none) b = .ok tb) :
    gen P o (fun _ => none) (.bin .ne a b) = .error (.unknownFunction "<>") := by
  simp only [gen, ha, hb]
  exact genBin_ne (o := o) (T := fun _ => none) rfl ta tb

example : gen ratPrims {} (fun _ => none) (.bin .ne (.num 1) (.num (2 : Rat))) = .error (.unknownFunction "<>") :=
  ne_is_rejected ratPrims {} _ _ _ _ rfl rfl

/-- **The backwards `if_else` loop is "first true branch"**: folding `if_else(cond, value, src)` from
    the last branch to the first (what `exitIfExpression`, `exitIfEquation` and `exitIfStatement` do)
    yields the chain that tests the conditions in source order and takes the first true one. -/
theorem if_fold_first_true (cs es : List (CTerm K)) (hlen : cs.length + 1 = es.length) :
    foldFromLast cs es = nestAll cs es :=
  foldFromLast_eq_nestAll hlen

/-- … and that chain evaluates like the if-expression: conditions in order, only the taken branch. -/
theorem if_chain_semantics (P : Prims K) (ρ : Env K) (c e : CTerm K) (cs es : List (CTerm K)) :
    evalC P ρ (nestAll (c :: cs) (e :: es)) =
      (do let vc ← evalC P ρ c
          let b ← condOf P vc
          if b then evalC P ρ e else evalC P ρ (nestAll cs es)) :=
  rfl

example : foldFromLast [CTerm.const (1 : Rat), .const 0] [.const 10, .const 20, .const 30] =
    .ifElse (.const 1) (.const 10) (.ifElse (.const 0) (.const 20) (.const 30)) := by
  rw [if_fold_first_true _ _ (by decide)]
  rfl

/-- **The residual of an equation is `lhs - rhs`** (`exitEquation`), with the outputs of a called
    function truncated to what the left-hand side takes. -/
theorem residual_is_lhs_minus_rhs (P : Prims K) (o : Opts) (T : FTab K) (F : FSem K)
    (hT : TabOK P T F) (hS : NoShadow T) (e : SEq K) (c : CTerm K) (h : genSEq P o T e = .ok c)
    (ρ : Env K) : Refines (evalC P ρ c) (residualSEq P F ρ e) :=
  genSEq_refines hT hS h ρ

example : ∃ c, genSEq ratPrims {} (fun _ => none) ⟨[.ref "x" []], .num 5⟩ = .ok c ∧
    evalC ratPrims ⟨fun _ => some [3], fun _ => none, fun _ => none⟩ c = some [(-2 : Rat)] := by
  refine ⟨_, rfl, ?_⟩
  decide +kernel

/-- **The loop values are the Modelica range**: `np.arange(start, stop ± 1, step)` is
    `start : step : stop`, for positive and negative steps, whether or not the step divides the span. -/
theorem forloop_range (a s b : Int) : arangeCode a s b = modelicaRange a s b :=
  arangeCode_eq a s b

example : arangeCode 1 2 4 = [1, 3] ∧ arangeCode 5 (-2) 0 = [5, 3, 1] ∧ arangeCode 3 1 2 = [] := by
  decide

/-- For contrast: the iteration used before the upstream fix 4aad8e2, `arange(start, stop + step, step)`,
    is the Modelica range only when the step divides the span (and overshoots otherwise). -/
theorem forloop_range_old_needs_divisibility (a s b : Int) (hs : 0 < s) (hab : a ≤ b) (hdiv : s ∣ (b - a)) :
    arangeOld a s b = modelicaRange a s b := by
  simp only [arangeOld, arange, modelicaRange, show s > 0 from hs, if_true, hab]
  have e : (b + s - a + s - 1) = ((b - a) + s + s - 1) := by omega
  rw [e, len_step_past_dvd (b - a) s hs (by omega) hdiv]

example : arangeOld 1 2 4 = [1, 3, 5] ∧ modelicaRange 1 2 4 = [1, 3] := by decide

/-- **Every flat equation** — plain, if-equation (block of the first true condition), for-equation
    (body instantiated for every value of the Modelica range, laid out body-major) — has the residual
    the Modelica meaning prescribes. -/
theorem equation_correct (P : Prims K) (o : Opts) (T : FTab K) (F : FSem K) (hT : TabOK P T F)
    (hS : NoShadow T) (ienv : String → Option Int) (q : MEq K) (c : CTerm K)
    (h : genMEq P o T ienv q = .ok c) (ρ : Env K) (hidx : ρ.idx = ienv) :
    Refines (evalC P ρ c) (residualM P F ρ q) :=
  genMEq_refines hT hS ρ (hidx ▸ h)

example : ∃ c, genMEq ratPrims {} (fun _ => none) (fun _ => none)
      (.foreq "i" 1 (.lit 3) 2 [⟨[.ref "v" [.at (.var "i")]], .bin .mul (.idx "i") (.ref "x" [])⟩]) = .ok c ∧
    evalC ratPrims ⟨fun n => if n = "v" then some [10, 20, 30] else some [2],
      fun n => if n = "v" then some [3] else none, fun _ => none⟩ c = some [(8 : Rat), 24] := by
  refine ⟨_, rfl, ?_⟩
  decide +kernel

/-- **Sequential substitution is imperative execution** (`get_function`, `exitAssignmentStatement`,
    `exitIfStatement`, `exitForStatement`): a function translates to a `Function` computing exactly what
    running its algorithm section computes.  `SafeFunc` asks for what the translation needs to be right at
    all: scalar variables without subscripts (`mClosed`), locals distinct from inputs, and if-statements
    whose branches assign the same variables in the same order with conditions that do not read a
    variable assigned before the last one — outside that class the real translation is wrong (known
    finding C11-F3) or raises.  Assignments, if-statements with any number of branches and variables, and
    for-statements (any range, the loop index usable as a number) are all covered. -/
theorem function_subst (P : Prims K) (o : Opts) (T : FTab K) (F : FSem K) (hT : TabOK P T F)
    (hS : NoShadow T) (f : MFunc K) (hf : SafeFunc f) (fn : CFunc K) (h : genFunc P o T f = .ok fn)
    (vs : List (List K)) : Refines (evalCF P fn vs) (funcSem P F f vs) :=
  genFunc_refines hT hS hf h vs

/-- The substitution lemma behind it: `ca.substitute` on a term = evaluating the term with the
    substituted symbols bound to the values of their replacements, also under the binders of mapped
    loops (replacement terms are closed: no free loop index). -/
theorem substitute_is_rebinding (P : Prims K) (σ : SymVals K) (hσ : ValsClosed σ) (t : CTerm K) (ρ : Env K)
    (hsh : ∀ x s, SymVals.get σ x = some s → ρ.shape x = none) :
    evalC P ρ (subst σ t) = evalC P (over P ρ σ) t :=
  evalC_subst P σ hσ t ρ hsh

/-- The column-wise merge of `exitIfStatement` (`expanded_blocks`): for branches that assign the
    variables `xs` in the same order, one column of right-hand sides per variable. -/
theorem if_statement_columns (xs : List String) (hn : xs.Nodup) (r : List (CTerm K))
    (rest : List (List (CTerm K))) (h : ∀ q ∈ r :: rest, q.length = xs.length) :
    expandBlocks ((r :: rest).map (fun q => xs.zip q)).flatten = xs.zip (colsOf xs.length (r :: rest)) :=
  expandBlocks_aligned hn h

def exampleFunc : MFunc Rat :=
  { name := "f", inputs := ["a"], outputs := ["r"], locals := ["t"],
    body := [.assign "t" (.bin .add (.bin .mul (.num 2) (.ref "a" [])) (.num 1)),
             .ifs [.bin .gt (.ref "a" []) (.num 0)]
               ([[.ref "t" [], .bin .add (.ref "r" []) (.num 1)], [.un .neg (.ref "t" []), .ref "t" []]].map
                 fun q => ["r", "t"].zip q),
             .for "k" 1 (.lit 3) 2 [("r", .bin .add (.ref "r" []) (.bin .mul (.idx "k") (.ref "t" [])))],
             .assign "r" (.bin .sub (.ref "r" []) (.ref "a" []))] }

example : SafeFunc exampleFunc ∧
    (∃ fn, genFunc ratPrims {} (fun _ => none) exampleFunc = .ok fn ∧ evalCF ratPrims fn [[3]] = some [36]) ∧
    funcSem ratPrims (fun _ => none) exampleFunc [[3]] = some [36] := by
  refine ⟨⟨?_, by decide⟩, ⟨_, rfl, by decide +kernel⟩, by decide +kernel⟩
  intro s hs
  simp only [exampleFunc, List.mem_cons, List.mem_nil_iff, or_false] at hs
  rcases hs with rfl | rfl | rfl | rfl
  · exact .assign _ _ (by decide)
  · exact .ifs _ ["r", "t"] _ _ (by decide) (by decide) (by decide) (by decide) (by decide) (by decide)
  · exact .for _ _ _ _ _ (by decide)
  · exact .assign _ _ (by decide)

/-- Function tables: functions are declared before use; the translated table refines the table of
    meanings (every function in the class of `function_subst`). -/
theorem function_table_correct (P : Prims K) (o : Opts) : ∀ (fs : List (MFunc K)),
    (∀ f ∈ fs, SafeFunc f) → NoShadow (genTable P o fs) → TabOK P (genTable P o fs) (funcTable P fs) :=
  genTable_tabOK P o

/-- **The residual functions**: if the generator accepts the model, then at every point where the
    Modelica meaning of all (initial) equations is defined, the generated DAE / initial residual function
    returns exactly `lhs - rhs` of each flat equation — plain, if- and for-equations, calls of functions
    with assignments, if-statements and for-statements (`SafeFunc`, see `function_subst`). -/
theorem residual_function_correct (P : Prims K) (o : Opts) (ienv : String → Option Int)
    (m : MModel K) (initial : Bool) (fn : CFunction K) (h : genResidual P o ienv m initial = .ok fn)
    (hsafe : ∀ f ∈ m.funcs, SafeFunc f) (hS : NoShadow (genTable P o m.funcs))
    (ρ : Env K) (hidx : ρ.idx = ienv) :
    Refines (evalFn P ρ fn) (residualsOfModel P ρ m initial) :=
  genResidual_refines ρ (hidx ▸ h) hsafe hS

example : ∃ fn, genResidual ratPrims {} (fun _ => none)
      ⟨[exampleFunc], [.simple ⟨[.ref "y" []], .call "f" (.cons (.ref "x" []) .nil)⟩], []⟩ false = .ok fn ∧
    evalFn ratPrims ⟨fun n => if n = "x" then some [3] else some [1], fun _ => none, fun _ => none⟩ fn
      = some [[(-35 : Rat)]] := by
  refine ⟨_, rfl, ?_⟩
  decide +kernel

/-- **A delay operator is an independent input**: whatever its operands, `delay(e, d)` contributes the
    symbol `_pymoca_delay_k` to the residual, on both sides (the operands only feed the delay-argument
    function). -/
theorem delay_is_free_input (P : Prims K) (o : Opts) (T : FTab K) (F : FSem K) (k : Nat) (e d : MExpr K)
    (c : CTerm K) (h : gen P o T (.delay k e d) = .ok c) (ρ : Env K) :
    evalC P ρ c = ρ.val (delayName k) ∧ evalM P F ρ (.delay k e d) = ρ.val (delayName k) := by
  obtain ⟨_, _, _, _, rfl⟩ := bind2_ok.mp h
  exact ⟨rfl, rfl⟩

/-- **The delay-argument function** returns, per delay operator in walking order, the Modelica value
    of the delayed expression and of the duration. -/
theorem delay_arguments_correct (P : Prims K) (o : Opts) (m : MModel K) (fn : CFunction K)
    (h : genDelayFunction P o m = .ok fn) (hsafe : ∀ f ∈ m.funcs, SafeFunc f)
    (hS : NoShadow (genTable P o m.funcs)) (ρ : Env K) :
    Refines (evalFn P ρ fn) (delayArgsOfModel P ρ m) := by
  obtain ⟨ts, hts, hc⟩ := bind_ok.mp h
  cases hc
  exact genDelayArgs_refines (genTable_tabOK P o m.funcs hsafe hS) hS hts ρ

example : ∃ fn, genDelayFunction ratPrims {}
      ⟨[], [.simple ⟨[.ref "y" []], .delay 0 (.bin .add (.ref "x" []) (.num 1)) (.ref "p" [])⟩], []⟩ = .ok fn ∧
    evalFn ratPrims ⟨fun n => if n = "x" then some [3] else some [2], fun _ => none, fun _ => none⟩ fn
      = some [[(4 : Rat)], [2]] := by
  refine ⟨_, rfl, ?_⟩
  decide +kernel

/-! ### What subscripts mean (the specification side: 1-based, Modelica ranges, column-major) -/

/-- A range subscript `lo : s : hi` selects the elements whose 1-based indices are the values of the
    Modelica range `lo : s : hi` (ascending, inside the dimension; the step need not divide the span). -/
theorem subscript_range_is_modelica_range (ienv : String → Option Int) (d : Nat) (lo hi : IdxE)
    (l h s : Int) (hlo : lo.eval ienv = some l) (hhi : hi.eval ienv = some h) (hs : 0 < s) (hl : 1 ≤ l)
    (hlh : l ≤ h) (hin : l + ((h - l) / s).toNat * s ≤ d) :
    subPositions ienv d (.range (some lo) (some hi) s) =
      some ((modelicaRange l s h).map fun v => (v - 1).toNat) := by
  simp only [subPositions, hlo, hhi, Option.bind_eq_bind, Option.bind_some]
  have h1 : ¬ s ≤ 0 := by omega
  have h2 : ¬ h < l := by omega
  simp only [h1, h2, if_false, hl, hin, and_self, if_true, modelicaRange, show s > 0 from hs, hlh, steps,
    List.map_map, Option.some.injEq]
  apply List.map_congr_left
  intro k _
  simp only [Function.comp]
  exact (pos_of_range_value k hl hs).symm

example : subPositions (fun _ => none) 6 (.range (some (.lit 2)) (some (.lit 6)) 3) = some [1, 4] := by decide

/-- Element `[i, j]` of an `r × c` matrix is the column-major position `(i-1) + (j-1)·r`. -/
theorem matrix_element_is_column_major (ienv : String → Option Int) (r c : Nat) (ei ej : IdxE) (i j : Int)
    (hi : ei.eval ienv = some i) (hj : ej.eval ienv = some j) (hir : 1 ≤ i ∧ i ≤ r) (hjc : 1 ≤ j ∧ j ≤ c) :
    positions ienv [r, c] [.at ei, .at ej] = some [(i - 1).toNat + (j - 1).toNat * r] := by
  simp only [positions, subPositions, hi, hj, hir, hjc, and_self, if_true, Option.bind_eq_bind, Option.bind_some,
    List.flatMap_cons, List.flatMap_nil, List.map_cons, List.map_nil, List.append_nil]

example : positions (fun _ => none) [2, 3] [.at (.lit 2), .at (.lit 3)] = some [5] := by decide

end PymocaVerif.Gen
