import PymocaVerif.Lemmas.SimplifyPipeline
import PymocaVerif.Lemmas.SimplifyAliasPass
/-!
# C14 — simplification preserves the DAE's solutions

Property theorems about the model `PymocaVerif.Model.Simplify` of `Model.simplify`.
`Sat I σ m`: the environment `σ` (a value for every symbol) satisfies the equations of `m`, gives
every parameter and constant its value (this includes the constant assignments simplification
records) and satisfies every alias simplification records.  The theorems hold over every field
`K`, every interpretation `I` of the operations the passes never look into, and every `Engine`
(what is observed of CasADi: rewriting on `substitute`, answers of `is_zero`) that preserves values.
-/
set_option linter.unusedSectionVars false
namespace PymocaVerif.Simplify
open PymocaVerif.AliasRel Lean.Grind

variable {K : Type} [Field K] [DecidableEq K]

/-! ### objects for the non-vacuity examples -/

def exI : Interp Rat := ⟨fun x => if x < 0 then -x else x, fun x => x, fun _ x => x, fun _ _ _ => 0⟩
def exE : Engine Rat := { norm := id, gzero := fun _ _ _ _ => false }
/-- `x - 3 = 0`, `y - 2*x = 0`, `z + y = 0`, `p*(w - z) = 0` with `parameter p = 2` -/
def exM : Model Rat :=
  { algs := [{ name := "x" }, { name := "y" }, { name := "z" }, { name := "w" }],
    params := [{ name := "p", value := some (.const 2) }],
    eqs := [.bin .sub (.sym "x") (.const 3), .bin .sub (.sym "y") (.bin .mul (.const 2) (.sym "x")),
            .bin .add (.sym "z") (.sym "y"), .bin .mul (.sym "p") (.bin .sub (.sym "w") (.sym "z"))] }
def exσ : Env Rat := fun n =>
  if n = "x" then 3 else if n = "y" then 6 else if n = "z" then -6 else if n = "w" then -6 else if n = "p" then 2 else 0
def exO : Opts := { eliminateConstantAssignments := true, replaceParameterValues := true,
                    factorAndSimplify := true, detectAliases := true }

theorem exI_ok : InterpOk exI := by
  constructor
  · intro x
    simp only [exI]
    split <;> grind
  · intro x
    simp [exI]

theorem exE_ok : EngineOk exI exE := ⟨fun _ _ => rfl, fun _ _ h => h, fun _ _ _ => rfl⟩

theorem exM_sat : Sat exI exσ exM := by
  refine ⟨?_, ?_, ?_, ?_⟩
  · intro e he
    simp [exM] at he
    rcases he with rfl | rfl | rfl | rfl <;> simp [Ex.eval, exσ] <;> grind
  · intro v hv t ht
    simp [exM] at hv
    subst hv
    simp at ht
    subst ht
    simp [Ex.eval, exσ]
  · intro v hv
    simp [exM] at hv
  · exact ⟨fun x A h => by simp [exM, AR.empty] at h, fun x c h => by simp [exM, AR.empty] at h⟩

/-! ### the key lemma -/

/-- Substitution lemma: evaluating `e[y₁ ↦ t₁, …]` in `σ` is evaluating `e` in `σ` with every `yᵢ`
    set to the value of `tᵢ` in `σ`.  It is what makes every substituting pass sound. -/
theorem subst_eval (I : Interp K) (σ : Env K) (l : List (String × Ex K)) (e : Ex K) :
    (e.subst l).eval I σ = e.eval I (upd I σ l) := eval_subst I σ l e

example : ((Ex.bin .add (.sym "x") (.sym "y") : Ex Rat).subst [("x", .const 2)]).eval exI exσ = 8 := by
  simp [Ex.subst, Ex.eval, List.lookup, exσ]
  grind

/-! ### every pass is sound, and what it records is true -/

/-- `pass_sound`: whatever the options, a pass that returns (does not raise) maps a model with
    solution `σ` to a model with solution `σ`: the remaining equations hold, the remaining and the
    newly recorded constants have their values, the recorded aliases hold with their signs.  The
    preconditions are the ones the property attaches to the options (`PassPre`). -/
theorem pass_sound {I : Interp K} (hI : InterpOk I) {E : Engine K} (hE : EngineOk I E) {σ : Env K} (o : Opts)
    (p : Pass) {m m' : Model K} (hpre : PassPre I σ E p m) (h : Pass.run E o p m = .ok m')
    (hs : Sat I σ m) : Sat I σ m' :=
  pass_run_sound hI hE o p hpre h hs

example : ∃ m', Pass.run exE exO .cassign exM = .ok m' ∧ PassPre exI exσ exE .cassign exM ∧ Sat exI exσ exM ∧
    names m'.consts = ["x"] :=
  ⟨_, rfl, trivial, exM_sat, by decide⟩

/-- `pipeline_sound`: for every option set, every number of iterations of the loop and every model,
    `simplify` either raises (`.error`, the exceptions of the real code) or returns a model of which
    every solution of the original model is a solution — the projection of the original solution set
    is contained in the simplified one.  By induction over the iterations and the pass list. -/
theorem pipeline_sound {I : Interp K} (hI : InterpOk I) {E : Nat → Pass → Engine K}
    (hE : ∀ i p, EngineOk I (E i p)) {σ : Env K} (o : Opts) {m m' : Model K}
    (hpre : LoopPre I σ E o 50 0 m) (h : simplify E o m = .ok m') (hs : Sat I σ m) : Sat I σ m' :=
  simplifyLoop_sound hI hE o 50 0 0 m m' hpre h hs

/-- a run with two passes enabled: `x` becomes the constant 3, `p` is replaced by 2 -/
def exO2 : Opts := { eliminateConstantAssignments := true, replaceParameterValues := true }

example : ∃ m', simplify (fun _ _ => exE) exO2 exM = .ok m' ∧ LoopPre exI exσ (fun _ _ => exE) exO2 50 0 exM ∧
    Sat exI exσ exM ∧ names m'.consts = ["x"] ∧ names m'.params = [] ∧ m'.eqs.length = 3 :=
  ⟨_, rfl, loopPre_plain ⟨rfl, rfl, rfl, rfl⟩ _ _ _, exM_sat, by decide, by decide, by decide⟩

/-- `recorded_holds`: every constant value and every alias (sign included) recorded by `simplify`
    holds in every solution of the original model. -/
theorem recorded_holds {I : Interp K} (hI : InterpOk I) {E : Nat → Pass → Engine K}
    (hE : ∀ i p, EngineOk I (E i p)) {σ : Env K} (o : Opts) {m m' : Model K}
    (hpre : LoopPre I σ E o 50 0 m) (h : simplify E o m = .ok m') (hs : Sat I σ m) :
    (∀ v ∈ m'.consts, ∀ t, v.value = some t → σ v.name = t.eval I σ) ∧
    (∀ c a, a ∈ m'.ar.aliases (false, c) → sval σ a = σ c) := by
  have h' := pipeline_sound hI hE o hpre h hs
  refine ⟨h'.consts, ?_⟩
  intro c a ha
  simpa [sval] using aliases_sval h'.alias ha

example : ∃ m', simplify (fun _ _ => exE) exO2 exM = .ok m' ∧ (∃ v ∈ m'.consts, v.value = some (.const 3)) :=
  ⟨_, rfl, _, List.mem_cons_self, rfl⟩

/-! ### passes that neither lose nor invent solutions (no precondition beyond the property's) -/

/-- `eliminate_constant_assignments` is exact: the kept equations together with the recorded
    constant values say exactly what the equations said (patterns `x`, `x - c`, `c - x`, `x + c`, `c + x`). -/
theorem constant_assignments_exact {I : Interp K} {σ : Env K} (m : Model K) :
    Sat I σ (eliminateConstantAssignments m) ↔ Sat I σ m := cassign_sat m

example : names (eliminateConstantAssignments exM).consts = ["x"] ∧ (eliminateConstantAssignments exM).eqs.length = 3 := by
  decide

/-- `factor_and_simplify_equations` is exact under the property's precondition (the dropped constant
    factors and divisors are non-zero) and the assumption that `fabs`, `sqrt` vanish only at zero. -/
theorem factor_exact {I : Interp K} (hI : InterpOk I) {σ : Env K} {m : Model K}
    (hpre : ∀ e ∈ m.eqs, FactorPre e) : Sat I σ (factorAndSimplify m) ↔ Sat I σ m := factor_sat hI hpre

example : ∀ e ∈ exM.eqs, FactorPre e := by
  intro e he
  simp [exM] at he
  rcases he with rfl | rfl | rfl | rfl <;> simp [FactorPre]

/-- `reduce_affine_expression` is exact under the property's precondition: when every equation is in
    the affine fragment of the states, derivatives, algebraic states and inputs (`AffinePre`), each row
    `Σ_x (∂e/∂x)(0) · x + e(0)` — the unknowns at 0, constants and parameters kept symbolic — has the value
    of the equation it replaces, so the collapsed model has exactly the solutions of the model it was
    given.  (Seed C14-3 evaluated the constants at 0 as well: `affineRow` substitutes the unknowns only.) -/
theorem affine_collapse_exact {I : Interp K} {σ : Env K} {m : Model K} (h : AffinePre m) :
    Sat I σ (reduceAffine m) ↔ Sat I σ m := reduceAffine_sat h

example : AffinePre exM ∧ (reduceAffine exM).eqs.length = 4 := by
  refine ⟨⟨by decide, ?_⟩, by decide⟩
  intro e he
  simp [exM] at he
  rcases he with rfl | rfl | rfl | rfl <;> simp [AffineIn, FreeOf, Ex.syms, Model.affineVars, names, exM]

/-- `resolve_parameter_values` only rewrites values by values: exact. -/
theorem resolve_exact {I : Interp K} {E : Engine K} (hE : EngineOk I E) {σ : Env K} (m : Model K) :
    Sat I σ (resolveParameterValues E m) ↔ Sat I σ m := resolve_sat hE m

example : EngineOk exI exE ∧ Sat exI exσ exM := ⟨exE_ok, exM_sat⟩

/-! ### no solution is invented: every solution of the simplified model extends to the original

Each theorem gives, for a solution `τ` of the pass's result, an environment `σ` that solves the model
the pass received and differs from `τ` only on the names the pass removed.  Together with
`pass_sound` this is "the solution set of the result is the projection of the solution set of the
input".  Side conditions: distinct variable names (`NamesNodup`, keys of one Python dict), the
removed names are not mentioned by an already recorded alias (`ARFree`; trivially true on the first
`_simplify_once`, whose alias relation is empty), and — for the passes with a substitution fixpoint —
the resolved values are closed (the condition under which the real loop reports no failure). -/

/-- replace_parameter_values -/
theorem parameter_values_complete {I : Interp K} {E : Engine K} (hE : EngineOk I E) {τ : Env K} {m m' : Model K}
    (h : replaceParameterValues E m = .ok m') (hnd : NamesNodup m)
    (hna : ∀ v ∈ m.params, hasConstValue v = true → v.aliased = false)
    (hfree : ARFree ((constValues m.params).map (·.1)) m.ar) (hs : Sat I τ m') :
    ∃ σ, Sat I σ m ∧ ∀ n, n ∉ (constValues m.params).map (·.1) → σ n = τ n := by
  obtain ⟨ar, hr, rfl⟩ := replaceParameterValues_ok h
  obtain rfl : m.ar = ar := Except.ok.inj
    ((removeAliased_id _ _ fun v hv => hna v (List.mem_filter.1 hv).1 (List.mem_filter.1 hv).2).symm.trans hr)
  have hkeys := constValues_fst m.params
  have hoff : ∀ n, n ∉ (constValues m.params).map (·.1) → upd I τ (constValues m.params) n = τ n :=
    fun _ hn => upd_off hn
  refine ⟨upd I τ (constValues m.params), ⟨eqok_back hE hs.eqs, ?_, ?_, aliasOk_of_agree hfree hoff hs.alias⟩, hoff⟩
  · refine valok_split_back hE hnd.params (q := fun v => !hasConstValue v) (fun n hn => by simpa [hkeys] using hn) ?_
      hs.params
    -- a removed parameter is bound to the constant that is its value
    intro v hv hq t ht
    have hc : hasConstValue v = true := by simpa using hq
    unfold hasConstValue at hc
    split at hc
    · rename_i c hval
      obtain rfl : Ex.const c = t := by simpa [hval] using ht
      exact upd_const (hkeys ▸ filter_name_nodup hnd.params) (List.mem_filterMap.2 ⟨v, hv, by simp [hval]⟩)
    · cases hc
  · exact valok_back hE (fun v hv hin => hnd.param_not_const (names_filter_sub (hkeys ▸ hin)) (List.mem_map_of_mem hv))
      hs.consts

/-- replace_constant_values -/
theorem constant_values_complete {I : Interp K} {E : Engine K} (hE : EngineOk I E) {τ : Env K} {m m' : Model K}
    (h : replaceConstantValues E m = .ok m') (hnd : NamesNodup m)
    (hna : ∀ v ∈ m.consts, v.simple = true → v.aliased = false)
    (hfree : ARFree (names (m.consts.filter Var.simple)) m.ar) (hs : Sat I τ m') :
    ∃ σ, Sat I σ m ∧ ∀ n, n ∉ names (m.consts.filter Var.simple) → σ n = τ n := by
  obtain ⟨l, ar, hv, hr, rfl⟩ := replaceConstantValues_ok h
  obtain rfl : m.ar = ar := Except.ok.inj
    ((removeAliased_id _ _ fun v hv' => hna v (List.mem_filter.1 hv').1 (List.mem_filter.1 hv').2).symm.trans hr)
  have hdom : l.map (·.1) = names (m.consts.filter Var.simple) := allValues_fst hv
  have hoff : ∀ n, n ∉ names (m.consts.filter Var.simple) → upd I τ l n = τ n :=
    fun _ hn => upd_off (by rw [hdom]; exact hn)
  refine ⟨upd I τ l, ⟨eqok_back hE hs.eqs, ?_, ?_, aliasOk_of_agree hfree hoff hs.alias⟩, hoff⟩
  · exact valok_back hE (fun v hv' hin => hnd.param_not_const (List.mem_map_of_mem hv') (names_filter_sub (hdom ▸ hin)))
      hs.params
  · refine valok_split_back hE hnd.consts (q := fun v => !v.simple) (fun n hn => by simpa [hdom] using hn) ?_
      hs.consts
    -- a removed constant is bound to its value, which is an MX constant
    intro v hv' hq t ht
    have hsimple : v.simple = true := by simpa using hq
    have hmem : (v.name, t) ∈ l := (allValues_mem hv v.name t).2 ⟨v, List.mem_filter.2 ⟨hv', hsimple⟩, rfl, ht⟩
    have hc : t.isConst = true := by simpa [Var.simple, ht] using hsimple
    cases t <;> simp [Ex.isConst] at hc
    exact upd_const (hdom ▸ filter_name_nodup hnd.consts) hmem

example : NamesNodup exM ∧ ARFree ((constValues exM.params).map (·.1)) exM.ar ∧
    ∃ m', replaceParameterValues exE exM = .ok m' ∧ names m'.params = [] := by
  refine ⟨by unfold NamesNodup; decide, ⟨fun x A h => by simp [exM, AR.empty] at h, fun x c h => by simp [exM, AR.empty] at h⟩, _, rfl, by decide⟩

/-- replace_parameter_expressions, including its substitution fixpoint: whatever the number of
    rounds, if the resolved values are closed then giving the removed parameters their resolved values
    satisfies their *original* definitions (`fix_back`: every round of the loop commutes with the
    original bindings). -/
theorem parameter_expressions_complete {I : Interp K} {E : Engine K} (hE : EngineOk I E) {τ : Env K} {m : Model K}
    (hnd : NamesNodup m)
    (hclosed : ∀ p ∈ fixedList E m.params, ∀ n ∈ p.2.syms, n ∉ (exprValues m.params).map (·.1))
    (hfree : ARFree ((exprValues m.params).map (·.1)) m.ar)
    (hs : Sat I τ (replaceParameterExpressions E m)) :
    ∃ σ, Sat I σ m ∧ ∀ n, n ∉ (exprValues m.params).map (·.1) → σ n = τ n := by
  have hs := sat_of_substFixed hE (replaceParameterExpressions_eq E m ▸ hs)
  have hoff : ∀ n, n ∉ (exprValues m.params).map (·.1) → upd I τ (fixedList E m.params) n = τ n :=
    fun _ hn => upd_off (by rw [fixedList_fst]; exact hn)
  refine ⟨_, ⟨eqok_back hE hs.eqs, valok_fixed_back hE hnd.params hclosed hs.params, ?_,
    aliasOk_of_agree hfree hoff hs.alias⟩, hoff⟩
  refine valok_back hE (fun v hv hin => ?_) hs.consts
  rw [fixedList_fst, exprValues_fst] at hin
  exact hnd.param_not_const (names_filter_sub hin) (List.mem_map_of_mem hv)

/-- replace_constant_expressions -/
theorem constant_expressions_complete {I : Interp K} {E : Engine K} (hE : EngineOk I E) {τ : Env K} {m : Model K}
    (hnd : NamesNodup m)
    (hclosed : ∀ p ∈ fixedList E m.consts, ∀ n ∈ p.2.syms, n ∉ (exprValues m.consts).map (·.1))
    (hfree : ARFree ((exprValues m.consts).map (·.1)) m.ar)
    (hs : Sat I τ (replaceConstantExpressions E m)) :
    ∃ σ, Sat I σ m ∧ ∀ n, n ∉ (exprValues m.consts).map (·.1) → σ n = τ n := by
  have hs := sat_of_substFixed hE (replaceConstantExpressions_eq E m ▸ hs)
  have hoff : ∀ n, n ∉ (exprValues m.consts).map (·.1) → upd I τ (fixedList E m.consts) n = τ n :=
    fun _ hn => upd_off (by rw [fixedList_fst]; exact hn)
  refine ⟨_, ⟨eqok_back hE hs.eqs, ?_, valok_fixed_back hE hnd.consts hclosed hs.consts,
    aliasOk_of_agree hfree hoff hs.alias⟩, hoff⟩
  refine valok_back hE (fun v hv hin => ?_) hs.params
  rw [fixedList_fst, exprValues_fst] at hin
  exact hnd.param_not_const (List.mem_map_of_mem hv) (names_filter_sub hin)

/-- chain `q1 = q0 + 1`, `q0 = 2*p`, `p = 3`: resolved in two rounds, closed -/
def exChain : Model Rat :=
  { params := [{ name := "p", value := some (.const 3) },
               { name := "q0", value := some (.bin .mul (.const 2) (.sym "p")) },
               { name := "q1", value := some (.bin .add (.sym "q0") (.const 1)) }],
    algs := [{ name := "x" }], eqs := [.bin .sub (.sym "x") (.sym "q1")] }

example : NamesNodup exChain ∧
    (∀ p ∈ fixedList exE exChain.params, ∀ n ∈ p.2.syms, n ∉ (exprValues exChain.params).map (·.1)) := by
  refine ⟨by unfold NamesNodup; decide, ?_⟩
  decide

/-- eliminable_variable_expression (algebraic variables) -/
theorem eliminable_complete {I : Interp K} {E : Engine K} (hE : EngineOk I E) {expandMx : Bool} {matched : List String}
    {m m' : Model K} {τ : Env K} (h : eliminateVariables E expandMx matched m = .ok m')
    (hpre : ∀ σ : Env K, ∀ e ∈ m.eqs, ExtractPre I σ e)
    (hclosed : ∀ r, elimLoop (names m.states) (names m.states ++ names m.algs) matched m.eqs m.algs = .ok r →
      ∀ p ∈ elimList E r.2.1, ∀ n ∈ p.2.syms, n ∉ r.2.1.map (·.1))
    (hvals : ∀ r, elimLoop (names m.states) (names m.states ++ names m.algs) matched m.eqs m.algs = .ok r →
      ∀ v ∈ m.params ++ m.consts, v.name ∉ r.2.1.map (·.1) ∧ ∀ t, v.value = some t → ∀ n ∈ t.syms, n ∉ r.2.1.map (·.1))
    (hfree : ∀ r, elimLoop (names m.states) (names m.states ++ names m.algs) matched m.eqs m.algs = .ok r →
      ARFree (r.2.1.map (·.1)) m.ar)
    (hs : Sat I τ m') :
    ∃ σ, Sat I σ m ∧ ∀ r, elimLoop (names m.states) (names m.states ++ names m.algs) matched m.eqs m.algs = .ok r →
      ∀ n, n ∉ r.2.1.map (·.1) → σ n = τ n := by
  obtain ⟨r, hr, _⟩ := eliminateVariables_ok h
  refine ⟨_, elim_back hE h hr (hpre _) (hclosed r hr) (hvals r hr) (hfree r hr) hs, fun r2 hr2 n hn => ?_⟩
  obtain rfl : r = r2 := Except.ok.inj (hr.symm.trans hr2)
  exact upd_off (elimList_fst E r.2.1 ▸ hn)

example : ∀ σ : Env Rat, ∀ e ∈ exM.eqs, ExtractPre exI σ e := by
  intro σ e he
  simp [exM] at he
  rcases he with rfl | rfl | rfl | rfl <;> simp [ExtractPre]

/-- detect_aliases (first pass: empty alias relation): every dropped alias equation is implied by the
    recorded aliases.  `_make_alias` only joins unrelated variables, the alias relation keeps its
    invariant `WF`, so the two symbols of a dropped equation end in one class, every non-canonical
    member of a class is bound to ± its canonical variable by the elimination loop, and no canonical
    variable is eliminated.  `GzOk` is used only through "what `is_zero` calls zero is zero". -/
theorem alias_detection_complete {I : Interp K} {E : Engine K} (hE : EngineOk I E) {allowDer : Bool} {m m' : Model K} {τ : Env K}
    (hempty : m.ar = AR.empty) (hnd : NamesNodup m)
    (hg : ∀ k e, m.eqs[k]? = some e → GzOk I E k (E.view k e))
    (hvals : ∀ v ∈ m.params ++ m.consts, ∀ t, v.value = some t → ∀ n ∈ t.syms, n ∉ names m.algs)
    (htime : "time" ∉ names m.algs)
    (h : detectAliases E allowDer m = .ok m') (hs : Sat I τ m') :
    ∃ σ, Sat I σ m ∧ (∀ n, n ∈ m'.known → σ n = τ n) ∧ (∀ n, n ∉ names m.algs → σ n = τ n) :=
  ⟨τ, alias_back hE (hempty ▸ wf_empty) (hempty ▸ jinv_empty _) hnd hg h hs, fun _ _ => rfl, fun _ _ => rfl⟩

example : exM.ar = AR.empty ∧ NamesNodup exM ∧ "time" ∉ names exM.algs ∧
    (∀ k e, exM.eqs[k]? = some e → GzOk exI exE k (exE.view k e)) ∧
    ∃ m', detectAliases exE true exM = .ok m' ∧ names m'.algs = ["x", "y", "w"] := by
  refine ⟨rfl, by unfold NamesNodup; decide, by decide, ?_, _, rfl, by decide⟩
  intro k e _ a b s hz
  simp [exE] at hz

/-- every enabled pass of the run, on the model it receives, loses nothing outside the name list `D`: the
    conclusion of the per-pass theorems above, with `D` any list containing the removed names -/
def RunBack (I : Interp K) (E : Pass → Engine K) (o : Opts) (D : List String) : List Pass → Model K → Prop
  | [], _ => True
  | p :: ps, m =>
    if p.enabled o then
      (∀ m' τ, Pass.run (E p) o p m = .ok m' → Sat I τ m' → ∃ σ, Sat I σ m ∧ ∀ n, n ∉ D → σ n = τ n) ∧
      ∀ m', Pass.run (E p) o p m = .ok m' → RunBack I E o D ps m'
    else RunBack I E o D ps m

/-- `pipeline_complete`: composition over the pass list.  Under `RunBack`, a solution of the result of a
    run of the passes (`runPasses`: `_simplify_once` before the affine collapse, for which
    `affine_collapse_exact` holds) extends to a solution of the original model that agrees with it outside `D`. -/
theorem pipeline_complete {I : Interp K} {E : Pass → Engine K} (o : Opts) (D : List String) :
    ∀ (ps : List Pass) (m m' : Model K) (τ : Env K), RunBack I E o D ps m → runPasses E o ps m = .ok m' → Sat I τ m' →
      ∃ σ, Sat I σ m ∧ ∀ n, n ∉ D → σ n = τ n :=
  fun ps m m' τ hpre h hs =>
    runPasses_induct (R := fun m m' => ∀ τ, Sat I τ m' → ∃ σ, Sat I σ m ∧ ∀ n, n ∉ D → σ n = τ n)
      (fun _ _ _ hpre => hpre) (fun _ τ hs => ⟨τ, hs, fun _ _ => rfl⟩)
      (fun f g τ hs => by
        obtain ⟨σ1, hs1, ha1⟩ := g τ hs
        obtain ⟨σ0, hs0, ha0⟩ := f σ1 hs1
        exact ⟨σ0, hs0, fun n hn => by rw [ha0 n hn, ha1 n hn]⟩)
      (fun _ _ m1 hpre h1 τ hs => hpre m1 τ h1 hs) ps m m' hpre h τ hs

example : RunBack exI (fun _ => exE) {} [] [] exM := trivial

end PymocaVerif.Simplify
