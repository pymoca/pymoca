import PymocaVerif.Lemmas.CacheState
/-!
# C20 — the model cache is never used when stale

Property theorems over the state machine of `Model/CacheState.lean` (`transfer_model`,
`load_model`, `save_model`).  Histories are arbitrary finite lists of: rewrite/add a `.mo`
file in the model folder or a library folder, change the pymoca version, call
`transfer_model` with any options; also (shared with C21) interrupted transfers and
truncations of the cache file.  The hypotheses of the property are `Admissible`:
every edit gets a modification time strictly later than the cache file's, `mtime_check`
stays on, and — forced by the proof, because `load_model` leaves `library_folders` out of
the option comparison (`Cfg.exclLibs`) — the transfers of one history name the same
library folders `L`.  `libs_excluded_stale` shows that last hypothesis cannot be dropped
for the code as it is; with `exclLibs = false` it is vacuous.
-/
namespace PymocaVerif.CacheState

variable {M : Type}

/-- `FreshInv` is an invariant of every admissible history (no bound on its length). -/
theorem fresh_invariant (cfg : Cfg M) (L : List Folder) (hlaw : Lawful cfg) (hist : List Op)
    (w : World M) (h0 : FreshInv cfg L w) (hadm : Admissible cfg L w hist) :
    FreshInv cfg L (run cfg w hist).1 :=
  (history_spec hlaw h0 hadm).2

/-- Every `transfer_model` call of every admissible history returns (never raises) a model,
    and that model is the compile of the sources, options and version current at the call.
    PARTIAL with respect to the property text: `Admissible` also demands that the calls of one
    history name the same `library_folders` while that key is excluded from the option
    comparison.  The missing part (histories that change `library_folders`) is false for the
    code as it is — `libs_excluded_stale`, finding C20-F1 — and true once the key is compared
    (`transfer_correct_libs_compared`). -/
theorem transfer_correct_partial (cfg : Cfg M) (L : List Folder) (hlaw : Lawful cfg) (hist : List Op)
    (w : World M) (h0 : FreshInv cfg L w) (hadm : Admissible cfg L w hist) :
    AllCorrect cfg w hist :=
  (history_spec hlaw h0 hadm).1

/-- The same, spelled out for one call after an arbitrary admissible history that starts
    without a cache file: the result equals `compile version (current sources) options`.
    PARTIAL in the same sense (hypothesis `hl` / the library clause of `Admissible`). -/
theorem transfer_after_history_partial (cfg : Cfg M) (L : List Folder) (hlaw : Lawful cfg)
    (fs : Folder → List SrcFile) (v : Nat) (hist : List Op)
    (hadm : Admissible cfg L ⟨fs, none, v⟩ hist) (o : Opts) (now size : Nat)
    (hm : o.norm.mtimeCheck = true) (hl : cfg.exclLibs = true → o.libs = L) :
    let w := (run cfg ⟨fs, none, v⟩ hist).1
    (transfer cfg w o now size).2.model? =
      some (cfg.compile w.version (srcs w.fs o.norm) o.norm) := by
  exact (transfer_spec hlaw (history_spec hlaw (freshInv_of_no_cache rfl) hadm).2 (.inl hm) hl).1

/-- When `library_folders` takes part in the option comparison (`exclLibs = false`) no
    hypothesis on the library folders is needed: a hit returns the current compile. -/
theorem transfer_correct_libs_compared (cfg : Cfg M) (hex : cfg.exclLibs = false)
    (hlaw : Lawful cfg) (L : List Folder) (w : World M) (h0 : FreshInv cfg L w) (o : Opts)
    (now size : Nat) (hm : o.norm.mtimeCheck = true) :
    Correct cfg w o (transfer cfg w o now size).2 :=
  (transfer_spec hlaw h0 (.inl hm) fun h => by rw [hex] at h; cases h).1

/-- Full statement of the property for the code variant that compares `library_folders`
    (`exclLibs = false`): the library clause of `Admissible` is vacuous (any `L` will do), so
    only the hypotheses of the property text remain — edits later than the cache, `mtime_check`
    on — and every transfer of every such history, with any option changes including the
    library folders, returns the compile of the current sources. -/
theorem transfer_correct_full_if_libs_compared (cfg : Cfg M) (hex : cfg.exclLibs = false)
    (hlaw : Lawful cfg) (L L' : List Folder) (hist : List Op) (w : World M)
    (h0 : FreshInv cfg L' w) (hadm : Admissible cfg L w hist) : AllCorrect cfg w hist :=
  (history_spec hlaw h0 (hadm.change_libs hex)).1

/-- `mtime_check = False` only switches off the scan of the source folders: as long as no
    source was edited after the cache was written, every call — whatever the version and the
    options have become — still returns the compile of the current sources under the current
    version and options (seed C20-6: the version test guarded by `mtime_check`). -/
theorem version_and_options_checked_without_mtime_check (cfg : Cfg M) (L : List Folder)
    (hlaw : Lawful cfg) (w : World M) (h0 : FreshInv cfg L w) (o : Opts) (now size : Nat)
    (hl : cfg.exclLibs = true → o.libs = L)
    (hquiet : ∀ c, w.cache = some c → ∀ f ∈ folders o.norm, stale c (w.fs f) = false) :
    (transfer cfg w o now size).2.model? = some (compileNow cfg w o.norm) :=
  (transfer_spec hlaw h0 (.inr hquiet) hl).1

/-- Modification times are compared with the cache file's only — there is no wall clock in
    `load_model`: a source file newer than the cache, by any amount and however far in the
    future, is never served from the cache (seed C20-3: an upper bound `<= time.time()`). -/
theorem newer_file_is_never_served (cfg : Cfg M) (w : World M) (o : Opts) (c : CacheFile M)
    (hc : w.cache = some c) (hm : o.mtimeCheck = true) (f : Folder) (hf : f ∈ folders o)
    (x : SrcFile) (hx : x ∈ w.fs f) (hnew : c.mtime < x.mtime) :
    load cfg w o = .miss .outOfDate := by
  have hst : stale c (w.fs f) = true := List.any_eq_true.2 ⟨x, hx, decide_eq_true hnew⟩
  unfold load
  rw [hc]
  exact if_pos (by rw [hm, Bool.true_and, List.any_eq_true]; exact ⟨f, hf, hst⟩)

/-- An option change in *any* key — the rest list holds every key that is passed, default or
    not (seed C20-4: `iterative_simplification` going from absent to `True`) — makes the call
    recompile, and the result is the compile under the new options. -/
theorem changed_option_is_recompiled (cfg : Cfg M) (hlaw : Lawful cfg) (w : World M) (o : Opts) (now size : Nat) (c : CacheFile M) (hc : w.cache = some c)
    (hdiff : c.db.opts.rest ≠ o.norm.rest) (hcg : (o.norm.cache || o.norm.codegen) = true) :
    ∃ r, (transfer cfg w o now size).2 = .compiled (compileNow cfg w o.norm) r := by
  cases hload : load cfg w o.norm with
  | hit m =>
    obtain ⟨c', hc', _, _, _, hopts, _⟩ := load_eq_hit_iff.1 hload
    cases hc.symm.trans hc'
    exact absurd (optsMatch_rest hopts) hdiff
  | raised e => exact absurd hload (load_ne_raised hlaw)
  | miss r => exact ⟨r, by rw [transfer_miss hcg hload]⟩

section examples
/-- models of the examples: `exCfg.compile` returns everything it is given -/
abbrev Src := Nat × List (List (String × Nat)) × Opts
def exOpts (l : List Folder) (r : String) : Opts :=
  { libs := l, mtimeCheck := true, cache := true, codegen := false, expandMx := false, rest := [("detect_aliases", r)] }
def exCfg (excl : Bool) : Cfg Src :=
  { compile := fun v s o => (v, s, o), truncErr := fun n => ⟨[if n = 0 then "EOFError" else "UnpicklingError", "Exception"], false⟩,
    exclLibs := excl }
def exW : World Src := ⟨fun _ => [], none, 1⟩
/-- edits after the cache, an option change, a version change, a library file added -/
def exHist : List Op :=
  [.write 0 "M.mo" 1 1, .write 1 "L.mo" 1 10, .transfer (exOpts [1] "False") 5 100,
   .transfer (exOpts [1] "False") 6 100, .write 0 "M.mo" 7 2, .transfer (exOpts [1] "False") 9 100,
   .transfer (exOpts [1] "True") 11 120, .setVersion 2, .transfer (exOpts [1] "True") 12 120,
   .write 1 "K.mo" 13 30, .transfer (exOpts [1] "True") 14 130]

example (b : Bool) : Lawful (exCfg b) := by
  intro n
  by_cases h : n = 0 <;> simp [exCfg, convert, caughtClasses, h]

-- the hypotheses of the theorems are satisfiable by a history that exercises hit, edit,
-- option change, version change and addition
example : FreshInv (exCfg true) [1] exW ∧ Admissible (exCfg true) [1] exW exHist := by
  exact ⟨freshInv_of_no_cache rfl, .of_test (by decide +kernel)⟩
-- … and the run really contains a hit and recompiles for four different reasons
example : (run (exCfg true) exW exHist).2.map Outcome.kind =
    ["compiled:no-file", "hit", "compiled:out-of-date", "compiled:options", "compiled:version",
     "compiled:out-of-date"] := by
  decide +kernel
-- a file stamped far in the future is newer than the cache; a non-default key changes `rest`
def exFuture : World Src :=
  ⟨fun _ => [⟨"M.mo", 2200000000000, 1⟩], some ⟨5, ⟨1, exOpts [] "False", (1, [], exOpts [] "False")⟩, 10, 10⟩, 1⟩
example : (match load (exCfg true) exFuture (exOpts [] "False") with | .miss r => r.name | _ => "") = "out-of-date" := by decide +kernel
-- mtime_check off, version changed since the cache was written: recompiled because of the version
example : ((transfer (exCfg true) (run (exCfg true) exW
    [.write 0 "M.mo" 1 1, .transfer { exOpts [] "False" with mtimeCheck := false } 5 100, .setVersion 2]).1
    { exOpts [] "False" with mtimeCheck := false } 9 100).2).kind = "compiled:version" := by decide +kernel
end examples

/-- The hypothesis on `library_folders` cannot be dropped for the code as it is
    (`exclLibs = true`): switching to another library folder whose files are older than the
    cache is a history satisfying the mtime hypothesis on which `transfer_model` returns a
    model compiled from the *old* library folder (DESIGN §6 row 11, finding C20-F1). -/
theorem libs_excluded_stale :
    ∃ (hist : List Op) (o : Opts) (m : Src),
      Admissible (exCfg false) [] exW hist ∧  -- the mtime hypotheses hold (library clause vacuous)
      (transfer (exCfg true) (run (exCfg true) exW hist).1 o 9 100).2 = .hit m ∧
      m ≠ compileNow (exCfg true) (run (exCfg true) exW hist).1 o.norm := by
  refine ⟨[.write 0 "M.mo" 1 1, .write 1 "A.mo" 1 10, .write 2 "A.mo" 1 20,
           .transfer (exOpts [1] "False") 5 100], exOpts [2] "False",
          (1, [[("M.mo", 1)], [("A.mo", 10)]], (exOpts [1] "False").norm), ?_, ?_, ?_⟩
  · exact .of_test (by decide +kernel)
  · rfl
  · decide +kernel

/-- The mtime hypothesis cannot be dropped either: an edit whose modification time is not
    later than the cache file's is served from the cache. -/
theorem old_mtime_edit_is_served_stale :
    ∃ (hist : List Op) (o : Opts) (m : Src),
      (transfer (exCfg true) (run (exCfg true) exW hist).1 o 9 100).2 = .hit m ∧
      m ≠ compileNow (exCfg true) (run (exCfg true) exW hist).1 o.norm := by
  refine ⟨[.write 0 "M.mo" 1 1, .transfer (exOpts [] "False") 5 100, .write 0 "M.mo" 5 2],
          exOpts [] "False", (1, [[("M.mo", 1)]], (exOpts [] "False").norm), ?_, ?_⟩
  · rfl
  · decide +kernel

end PymocaVerif.CacheState
