import PymocaVerif.Lemmas.AliasRelSpec
/-!
# C17 — the alias relation is a signed equivalence under any operation history

Property theorems only (helper lemmas live in `Lemmas/AliasRel*.lean`).  `WFR s` is the full
invariant: `_aliases` is a signed partition (`ARInv`), `_canonical_variables_map` is defined on
exactly the stored names and gives every member of a class the same canonical name with the sign
of the member, `_canonical_variables` is the duplicate-free set of those canonical names.
-/
namespace PymocaVerif.AliasRel

/-! ## Single operations -/

/-- `add` never trips its `assert`, and keeps the class invariant, whenever the call is
    admissible (does not relate a variable to its own negation). -/
theorem add_keeps_class_invariant (s : AR) (h : ARInv s) (a b : SName)
    (hpre : b ∉ s.aliases (tog a)) : ∃ s', s.add a b = some s' ∧ ARInv s' := by
  by_cases hb : b ∈ s.aliases a
  · exact ⟨s, add_noop h hb, h⟩
  · exact ⟨_, add_eff hb, addRes_inv h hpre⟩

example : ARInv exS1 ∧ ((true, "c") : SName) ∉ exS1.aliases (tog (false, "b")) := ⟨exS1_wfr.cls, by decide +kernel⟩

/-- `add` keeps the full invariant (classes, canonical map, canonical-variables set). -/
theorem add_refines (s : AR) (w : WFR s) (a b : SName) (hpre : b ∉ s.aliases (tog a)) :
    ∃ s', s.add a b = some s' ∧ WFR s' :=
  w.add hpre

-- non-vacuity (state after a ~ b, b ~ -c): the invariant holds and the class of a is {a, b, -c}
example : WFR exS2 ∧ exS2.aliases (false, "a") = [(false, "a"), (false, "b"), (true, "c")] ∧
    (true, "c") ∉ exS1.aliases (false, "b") ∧ (true, "c") ∉ exS1.aliases (tog (false, "b")) :=
  ⟨exS2_wfr, by decide +kernel, by decide +kernel, by decide +kernel⟩

/-- `aliases()` after an effective `add(a, b)`: the class of `a` and of `b` are united, the
    classes of their negations are united, every other class is unchanged. -/
theorem aliases_after_add (s s' : AR) (a b x y : SName) (hb : b ∉ s.aliases a)
    (hs : s.add a b = some s') :
    y ∈ s'.aliases x ↔
      (if x ∈ s.aliases a ++ s.aliases b then y ∈ s.aliases a ++ s.aliases b
       else if tog x ∈ s.aliases a ++ s.aliases b then y ∈ s.aliases (tog a) ++ s.aliases (tog b)
       else y ∈ s.aliases x) := by
  rw [eq_addRes_of_add hb hs]
  exact mem_aliases_add s _ a b x y (addRes_al s a b)

example : exS1.add (false, "b") (true, "c") = some exS2 ∧ (true, "c") ∉ exS1.aliases (false, "b") :=
  ⟨add_eff (by decide +kernel), by decide +kernel⟩

/-- the canonical name of the merged class is the one of `a`'s class, with `a`'s sign -/
theorem canonical_after_add (s s' : AR) (a b x : SName) (hb : b ∉ s.aliases a) (hs : s.add a b = some s') :
    s'.canonicalSigned x =
      if tog x ∈ s.aliases a ++ s.aliases b then flipIf true (s.canonicalSigned a)
      else if x ∈ s.aliases a ++ s.aliases b then s.canonicalSigned a else s.canonicalSigned x := by
  rw [eq_addRes_of_add hb hs]
  exact canonicalSigned_addRes s a b x

-- the merged class {a, b, -c} keeps a's canonical name; -c has sign +1, c has sign -1
example : exS2.canonicalSigned (true, "c") = ("a", false) ∧ exS2.canonicalSigned (false, "c") = ("a", true) ∧
    exS2.cv = ["a"] := by decide +kernel

/-- `remove` never raises under the invariant and keeps it. -/
theorem remove_refines (s : AR) (w : WFR s) (a : SName) : ∃ s', s.remove a = some s' ∧ WFR s' :=
  w.remove a

-- a is canonical in exS2: remove dissolves; b is not: no-op; both without exception
example : WFR exS2 ∧ (exS2.remove (false, "a")).isSome ∧ exS2.remove (false, "b") = some exS2 :=
  ⟨exS2_wfr, by rw [remove_eff exS2_wfr (a := (false, "a")) rfl (by decide +kernel)]; rfl, remove_noop (by decide +kernel)⟩

/-- `remove(a)` for a canonical name dissolves exactly the class of `a` and that of `-a`: their
    members become singletons with the default canonical name, everything else is unchanged;
    for any other argument `remove` does nothing. -/
theorem remove_dissolves (s s' : AR) (w : WFR s) (a : SName) (hs : s.remove a = some s') :
    (a.1 = false ∧ a.2 ∈ s.cv →
      ∀ x, (s'.aliases x = if x ∈ s.aliases a ++ s.aliases (tog a) then [x] else s.aliases x) ∧
           (s'.canonicalSigned x = if x ∈ s.aliases a ++ s.aliases (tog a) then (x.2, x.1) else s.canonicalSigned x) ∧
           (a.2 ∉ s'.cv)) ∧
    (¬ (a.1 = false ∧ a.2 ∈ s.cv) → s' = s) := by
  constructor
  · intro ⟨h1, h2⟩ x
    rw [remove_eff w h1 h2] at hs
    cases hs
    exact ⟨aliases_removeRes s a x, canonicalSigned_removeRes s a x, fun m => ((mem_cv_removeRes s a _).1 m).2 rfl⟩
  · intro hn
    rw [remove_noop hn] at hs
    cases hs; rfl

example : exS2.remove (false, "a") = some (exS2.removeRes (false, "a")) ∧
    (exS2.removeRes (false, "a")).aliases (false, "b") = [(false, "b")] ∧ (exS2.removeRes (false, "a")).cv = [] :=
  ⟨remove_eff exS2_wfr rfl (by decide +kernel), by decide +kernel, by decide +kernel⟩

/-- `remove` is effective exactly for the canonical name of a non-trivial class -/
theorem remove_effective_iff (s : AR) (w : WFR s) (c : String) :
    c ∈ s.cv ↔ (s.canonicalSigned (false, c) = (c, false) ∧ ∃ y, y ∈ s.aliases (false, c) ∧ y ≠ (false, c)) := by
  constructor
  · intro hc
    have hcc := w.can_of_cv hc false
    exact ⟨hcc, (cv_iff_canonical w (false, c)).1 (by rwa [hcc])⟩
  · intro ⟨hcc, hnt⟩
    have := (cv_iff_canonical w (false, c)).2 hnt
    rwa [hcc] at this

example : "a" ∈ exS2.cv ∧ "b" ∉ exS2.cv ∧ exS2.canonicalSigned (false, "b") = ("a", false) := by decide +kernel

/-- `copy` gives a relation with the same observables that satisfies the invariant. -/
theorem copy_refines (s : AR) (w : WFR s) : WFR s.copy ∧ s.copy = s := ⟨w, rfl⟩

example : WFR exS2.copy := (copy_refines exS2 exS2_wfr).1

/-! ## What the invariant says about the observables -/

/-- `aliases()` is the class of a signed partition: reflexive, symmetric, transitive, compatible
    with negation, and no name is in the class of its own negation. -/
theorem aliases_is_class (s : AR) (w : WFR s) (x y z : SName) :
    x ∈ s.aliases x ∧ (y ∈ s.aliases x → x ∈ s.aliases y) ∧
    (y ∈ s.aliases x → z ∈ s.aliases y → z ∈ s.aliases x) ∧
    (y ∈ s.aliases (tog x) ↔ tog y ∈ s.aliases x) ∧ tog x ∉ s.aliases x :=
  ⟨mem_aliases_self w.cls x, aliases_symm s w.cls, aliases_trans w.cls, aliases_tog w.cls x y,
   tog_not_mem_aliases w.cls x⟩

example : WFR exS2 ∧ (true, "c") ∈ exS2.aliases (false, "b") ∧ (false, "c") ∈ exS2.aliases (tog (false, "b")) :=
  ⟨exS2_wfr, by decide +kernel, by decide +kernel⟩

/-- `canonical_signed()`: all members of a class share the canonical name and sign, the negation
    has the flipped sign, and the canonical name (with that sign) is a member of the class. -/
theorem canonical_consistent (s : AR) (w : WFR s) (x y : SName) :
    (y ∈ s.aliases x → s.canonicalSigned y = s.canonicalSigned x) ∧
    s.canonicalSigned (tog x) = ((s.canonicalSigned x).1, !(s.canonicalSigned x).2) ∧
    ((s.canonicalSigned x).2, (s.canonicalSigned x).1) ∈ s.aliases x ∧
    ((s.canonicalSigned x).1 = (s.canonicalSigned y).1 ↔ (y ∈ s.aliases x ∨ y ∈ s.aliases (tog x))) :=
  ⟨w.can_eq x y, (w.can_neg x).trans (flipIf_true _), w.can_mem x, same_canonical_iff w x y⟩

example : WFR exS2 ∧ exS2.canonicalSigned (false, "b") = exS2.canonicalSigned (true, "c") ∧
    exS2.canonicalSigned (tog (false, "b")) = ("a", true) := ⟨exS2_wfr, by decide +kernel, by decide +kernel⟩

/-- Iteration yields exactly one entry per non-trivial class (pair of a class and its negation):
    the first components are duplicate-free, a name's canonical name occurs iff its class is
    non-trivial, and each entry is (canonical name, the rest of its class), the rest non-empty. -/
theorem iter_one_per_class (s : AR) (w : WFR s) :
    (s.iter.map (·.1)).Nodup ∧
    (∀ x, (s.canonicalSigned x).1 ∈ s.iter.map (·.1) ↔ ∃ y, y ∈ s.aliases x ∧ y ≠ x) ∧
    (∀ e ∈ s.iter, s.canonicalSigned (false, e.1) = (e.1, false) ∧ e.2 ≠ [] ∧
        ∀ y, y ∈ e.2 ↔ (y ∈ s.aliases (false, e.1) ∧ y ≠ (false, e.1))) := by
  rw [iter_map_fst]
  refine ⟨w.cv_nodup, cv_iff_canonical w, fun e he => ?_⟩
  obtain ⟨c, hc, rfl⟩ := List.mem_map.1 he
  obtain ⟨hcc, y, hy, hne⟩ := (remove_effective_iff s w c).1 hc
  have hmem : ∀ z, z ∈ (s.aliases (false, c)).filter (· != (false, c)) ↔
      z ∈ s.aliases (false, c) ∧ z ≠ (false, c) := fun z => by rw [List.mem_filter, bne_iff_ne]
  exact ⟨hcc, List.ne_nil_of_mem ((hmem y).2 ⟨hy, hne⟩), hmem⟩

example : WFR exS2 ∧ exS2.iter = [("a", [(false, "b"), (true, "c")])] := ⟨exS2_wfr, by decide +kernel⟩

/-! ## Histories -/

/-- **History theorem**: for every admissible history of `add`/`remove`/`copy` over any number of
    relation objects, no operation raises and every object satisfies the invariant afterwards
    (hence `aliases_is_class`, `canonical_consistent`, `iter_one_per_class` hold after every step). -/
theorem history_safe (ops : List Op) (st : Store) (hw : ∀ o, WFR (st o)) (ha : AdmissibleH st ops) :
    ∃ st', run st ops = some st' ∧ ∀ o, WFR (st' o) := by
  obtain ⟨st', hr, hw', _⟩ := history_spec hw ha
  exact ⟨st', hr, hw'⟩

theorem history_from_empty (ops : List Op) (ha : AdmissibleH Store.init ops) :
    ∃ st', run Store.init ops = some st' ∧ ∀ o, WFR (st' o) :=
  history_safe ops Store.init (fun _ => empty_wfr) ha

-- non-vacuity: a ~ b, b ~ -c, copy 0 → 1, remove a on the copy
example : AdmissibleH Store.init
    [.add 0 (false, "a") (false, "b"), .add 0 (false, "b") (true, "c"), .copy 0 1, .remove 1 (false, "a")] := by
  refine ⟨by decide +kernel, fun st1 h1 => ⟨?_, fun st2 h2 => ⟨rfl, fun st3 h3 => ⟨rfl, fun _ _ => trivial⟩⟩⟩⟩
  simp only [step, Option.map] at h1
  cases h1
  decide +kernel

example : ∀ op ∈ ([.add 0 (false, "a") (false, "b"), .copy 0 1, .remove 1 (false, "a")] : List Op), op.target ≠ 2 := by
  decide +kernel

/-- **A copy evolves independently of its source**: a history that never writes object `d` leaves
    it unchanged, whatever happens to the other objects (in particular to the source or the copies
    of `d`). -/
theorem copy_independent (ops : List Op) (st st' : Store) (d : Nat) (hd : ∀ op ∈ ops, op.target ≠ d)
    (hr : run st ops = some st') : st' d = st d := by
  induction ops generalizing st with
  | nil => cases hr; rfl
  | cons op ops ih =>
    rw [run, Option.bind_eq_some_iff] at hr
    obtain ⟨st1, h1, h2⟩ := hr
    rw [ih st1 (fun op' m => hd op' (List.mem_cons_of_mem _ m)) h2]
    exact (step_some h1).2 d (hd op List.mem_cons_self).symm

-- after `copy 0 1` the history only writes object 1: object 0 keeps the class {a, b}
example : ∃ st', run Store.init [.add 0 (false, "a") (false, "b"), .copy 0 1] = some st' ∧
    (∀ op ∈ ([.remove 1 (false, "a"), .add 1 (false, "x") (true, "b")] : List Op), op.target ≠ 0) :=
  ⟨_, rfl, by decide +kernel⟩

/-- `copy src dst` makes `dst` equal to `src`. -/
theorem copy_equals_source (st st' : Store) (src dst : Nat) (h : step st (.copy src dst) = some st') :
    st' dst = st src :=
  (Option.some.inj (step_some h).1).symm

example : ∃ st', step Store.init (.copy 0 1) = some st' := ⟨_, rfl⟩

/-! ## The relation is the signed closure of the added pairs minus the removed classes -/

/-- After an admissible `add(a, b)` the relation is the signed closure of the old relation and
    the new pair. -/
theorem add_closure (s s' : AR) (w : WFR s) (a b : SName) (hpre : b ∉ s.aliases (tog a))
    (hs : s.add a b = some s') (x y : SName) : relOf s' x y ↔ SClos (relOf s) a b x y :=
  relOf_add w.cls hpre hs x y

example : WFR exS1 ∧ exS1.add (false, "b") (true, "c") = some exS2 ∧
    SClos (relOf exS1) (false, "b") (true, "c") (false, "a") (true, "c") :=
  ⟨exS1_wfr, add_eff (by decide +kernel),
   SClos.trans (SClos.base (show (false, "b") ∈ exS1.aliases (false, "a") by decide +kernel)) SClos.pair⟩

/-- After `remove(a)` the relation is the old one minus the class pair of `a` when `a` is the
    canonical name of a non-trivial class, and the old one otherwise. -/
theorem remove_closure (s s' : AR) (w : WFR s) (a : SName) (hs : s.remove a = some s') (x y : SName) :
    relOf s' x y ↔ (if a.1 = false ∧ a.2 ∈ s.cv then dissolve (relOf s) a x y else relOf s x y) :=
  relOf_remove w hs x y

example : dissolve (relOf exS2) (false, "a") (false, "b") (false, "b") ∧
    ¬ dissolve (relOf exS2) (false, "a") (false, "b") (true, "c") := by
  have hm : (false, "b") ∈ exS2.aliases (false, "a") := by decide +kernel
  refine ⟨Or.inl ⟨Or.inl hm, rfl⟩, ?_⟩
  rintro (⟨_, e⟩ | ⟨hn, _⟩)
  · cases e
  · exact hn (Or.inl hm)

/-- **Closure characterisation**: along every admissible history the relation of every object equals
    the signed union-find closure of the added pairs minus the removed classes (copies start from
    their source's relation). -/
theorem closure_char (ops : List Op) (st : Store) (R : Nat → Rel) (hw : ∀ o, WFR (st o))
    (hR : ∀ o x y, relOf (st o) x y ↔ R o x y) (ha : AdmissibleH st ops) :
    ∃ st', run st ops = some st' ∧ ∀ o x y, relOf (st' o) x y ↔ specRun R st ops o x y := by
  obtain rfl : (fun o => relOf (st o)) = R := by
    funext o x y
    exact propext (hR o x y)
  obtain ⟨st', hr, _, hrel⟩ := history_spec hw ha
  exact ⟨st', hr, hrel⟩

example : (∀ o, WFR (Store.init o)) ∧ (∀ o x y, relOf (Store.init o) x y ↔ y = x) :=
  ⟨fun _ => empty_wfr, fun _ _ _ => List.mem_singleton⟩

/-- from the empty relations: the initial relation of every object is equality -/
theorem closure_char_from_empty (ops : List Op) (ha : AdmissibleH Store.init ops) :
    ∃ st', run Store.init ops = some st' ∧
      ∀ o x y, relOf (st' o) x y ↔ specRun (fun _ x y => y = x) Store.init ops o x y :=
  closure_char ops Store.init _ (fun _ => empty_wfr)
    (fun _ _ _ => List.mem_singleton) ha

-- the specification of the example history relates a and -c in object 0 and keeps them related after the
-- copy's class was removed
example : specRun (fun _ x y => y = x) Store.init
    [.add 0 (false, "a") (false, "b"), .add 0 (false, "b") (true, "c"), .copy 0 1, .remove 1 (false, "a")]
    0 (false, "a") (true, "c") :=
  SClos.trans (R := SClos _ _ _) (SClos.base SClos.pair) SClos.pair

end PymocaVerif.AliasRel
