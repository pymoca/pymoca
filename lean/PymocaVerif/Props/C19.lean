import PymocaVerif.Lemmas.CacheMeta
import PymocaVerif.Lemmas.CacheState
/-!
# C19 — cached and code-generated models equal fresh compiles

Theorems over `Model/CacheMeta.lean` (`save_model` → pickle → `load_model`), for every list
of variables of any shapes, every attribute being a plain Python value, an `MX` depending on
the parameters, or an `MX` that does not.  What is trusted and only exercised by the per-run
correspondence: pickle, CasADi function serialisation, `ca.external` on the compiled shared
libraries, and CasADi's dependency test (`AttrWF`: an attribute classified
`MX_INDEPENDENT` has the same value at every parameter vector, also at NaN).
At the end, over `Model/CacheState.lean`: which differences of the options `load_model` notices.
-/
namespace PymocaVerif.CacheMeta

variable {P E V : Type} [Inhabited V]

/-- Round trip of one category: the loaded variables are the saved ones — same number, same
    order, same names, shapes, Python types and aliases — and every attribute is the
    original Python value, or an `MX` whose element values are the original's (a scalar `MX`
    attribute of an array variable comes back repeated per element): at every parameter vector
    for an `MX_DEPENDENT` attribute, and for an `MX_INDEPENDENT` one wherever the original has
    its value at NaN (`AttrOk`; everywhere under `AttrWF`, see `attr_roundtrip`). -/
theorem roundtrip (nA : Nat) (embed : P → List V) (nanEnv : E) (vars : List (Var P E V)) :
    All2 (Matches nA nanEnv) vars (loadCat nanEnv (saveCat nA embed vars)) :=
  loadVars_matches nA embed nanEnv _ vars 0 (fun _ => []) (fun _ => rfl) (fun _ => rfl)

/-- Attribute values: variable `i`, attribute `j`, any parameter vector `e` (needs the row
    bookkeeping `loadVars_matches`: earlier array variables shift the rows). -/
theorem attr_roundtrip (nA : Nat) (embed : P → List V) (nanEnv : E) (vars : List (Var P E V))
    (i : Nat) (hi : i < vars.length) (j : Nat) (hj : j < nA) (dep : Bool) (f : E → List V)
    (hattr : vars[i].attrs j = .mx dep f) (hwf : AttrWF nanEnv (vars[i].attrs j)) :
    ∃ (h : i < (loadCat nanEnv (saveCat nA embed vars)).length) (g : E → List V),
      ((loadCat nanEnv (saveCat nA embed vars))[i]).attrs j = .mx g ∧
      ∀ e, g e = broadcast vars[i].numel (f e) := by
  obtain ⟨hlen, hm⟩ := (roundtrip nA embed nanEnv vars).get i hi
  have hok := hm.attrs j hj
  rw [hattr] at hok hwf
  obtain ⟨g, hg, hval⟩ := hok
  refine ⟨hlen, g, hg, fun e => hval e ?_⟩
  intro hd
  subst hd
  exact hwf e

/-- Plain Python attribute values come back unchanged. -/
theorem py_attr_roundtrip (nA : Nat) (embed : P → List V) (nanEnv : E) (vars : List (Var P E V))
    (i : Nat) (hi : i < vars.length) (j : Nat) (hj : j < nA) (p : P)
    (hattr : vars[i].attrs j = .py p) :
    ∃ (h : i < (loadCat nanEnv (saveCat nA embed vars)).length),
      ((loadCat nanEnv (saveCat nA embed vars))[i]).attrs j = .py (some p) := by
  obtain ⟨hlen, hm⟩ := (roundtrip nA embed nanEnv vars).get i hi
  have hok := hm.attrs j hj
  rw [hattr] at hok
  exact ⟨hlen, hok⟩

/-- Row bookkeeping made explicit: the rows read for variable `i` start at the sum of the
    element counts of the variables before it (not at `i`). -/
theorem row_offset_is_prefix_sum (nA : Nat) (embed : P → List V) (nanEnv : E) (vars : List (Var P E V)) :
    (loadCat nanEnv (saveCat nA embed vars)).map (·.row0)
      = (List.range vars.length).map (fun i => ((vars.take i).map Var.numel).sum) := by
  simp only [loadCat, saveCat, loadVars_row0, Nat.zero_add]

/-- Whole model: every category round-trips, and everything else (`der_states`, `outputs`,
    `delay_states`, `alias_relation`, string variables, the four functions) is returned as
    stored. -/
theorem model_roundtrip {X : Type} (nA : Nat) (embed : P → List V) (nanEnv : E) (m : Fresh P E V X) :
    (load nanEnv (save nA embed m)).payload = m.payload ∧
    All2 (fun vars lvars => All2 (Matches nA nanEnv) vars lvars) m.cats
      (load nanEnv (save nA embed m)).cats := by
  refine ⟨rfl, ?_⟩
  simp only [load, save, List.map_map]
  induction m.cats with
  | nil => exact All2.nil
  | cons c rest ih => exact All2.cons (roundtrip nA embed nanEnv c) ih

omit [Inhabited V] in
/-- Delay durations: whatever subset of symbols the loader's loop keeps symbolic (it reuses
    `actual_deps`, so later durations can keep more than they need), every loaded duration
    has the value of the stored one at every point, provided the stored dependency lists are
    right (`DependsOnly`, CasADi's `depends_on`). -/
theorem duration_roundtrip (nan : V) (raw : List ((Nat → V) → V)) (dds : List (List Nat))
    (hdep : All2 DependsOnly raw dds) :
    All2 (fun f g => ∀ env, g env = f env) raw (loadDurations nan raw dds) := by
  unfold loadDurations
  refine All2.zip_map _ (fun f dd t hd hm env => ?_) hdep (maskSets_sound (unionOf dds) dds _ (mem_unionOf dds))
  cases t with
  | none =>
    subst hm
    exact hd _ _ fun _ hk => nomatch hk
  | some T => exact hd.maskEnv hm nan env

/-- Dependency classification of `save_model` (`NOT_MX / MX_DEPENDENT / MX_INDEPENDENT`) on
    attribute expressions: an `MX` attribute is `MX_DEPENDENT` exactly when a parameter symbol
    occurs in one of its elements. -/
theorem classification_of_exprs {P : Type} (es : List PExpr) :
    classify (Attr.ofExprs (P := P) es) = (if es.any PExpr.hasParam then Dep.dependent else Dep.independent) := by
  unfold Attr.ofExprs classify
  cases es.any PExpr.hasParam <;> rfl

/-- Soundness of the classification: an attribute classified `MX_INDEPENDENT` has the same
    element values at every parameter vector — also at the all-NaN vector `load_model`
    evaluates it at (NaN is absorbing in `PExpr.eval`, so this is not trivial for `0 * p`:
    such an expression *is* classified dependent). This is `AttrWF`, the hypothesis of
    `attr_roundtrip`, proved for every expression-built attribute. -/
theorem independent_classification_sound {P : Type} (es : List PExpr)
    (hc : classify (Attr.ofExprs (P := P) es) = Dep.independent) (env nanEnv : Nat → Option Int) :
    es.map (PExpr.eval env) = es.map (PExpr.eval nanEnv) := by
  rw [classification_of_exprs] at hc
  cases h : es.any PExpr.hasParam with
  | false => exact evals_indep es h env nanEnv
  | true =>
    rw [h] at hc
    cases hc

theorem ofExprs_wf {P : Type} (es : List PExpr) (nanEnv : Nat → Option Int) :
    AttrWF nanEnv (Attr.ofExprs (P := P) es) := by
  unfold Attr.ofExprs
  cases h : es.any PExpr.hasParam with
  | false => exact fun env => evals_indep es h env nanEnv
  | true => trivial

/-- Round trip without any hypothesis on CasADi for expression-built attributes: whichever
    way the attribute is classified, the loaded value at every parameter vector is the
    original's. -/
theorem expr_attr_roundtrip {P : Type} (nA : Nat) (embed : P → List (Option Int)) (nanEnv : Nat → Option Int)
    (vars : List (Var P (Nat → Option Int) (Option Int))) (i : Nat) (hi : i < vars.length) (j : Nat) (hj : j < nA)
    (es : List PExpr) (hattr : vars[i].attrs j = Attr.ofExprs es) :
    ∃ (h : i < (loadCat nanEnv (saveCat nA embed vars)).length) (g : (Nat → Option Int) → List (Option Int)),
      ((loadCat nanEnv (saveCat nA embed vars))[i]).attrs j = .mx g ∧
      ∀ env, g env = broadcast vars[i].numel (es.map (PExpr.eval env)) := by
  have hwf : AttrWF nanEnv (vars[i].attrs j) := by rw [hattr]; exact ofExprs_wf es nanEnv
  exact attr_roundtrip nA embed nanEnv vars i hi j hj _ _ hattr hwf

section examples
/-- `Real v[2](each min = p); Real y(min = q, max = 2*q); Real z(max = p + q)` — the shape of
    DESIGN §6 row 17: an array variable in front of scalars with parameter-dependent bounds.
    Environments are `(p, q)`; attribute 1 = min, 2 = max. -/
def exVars : List (Var Int (Int × Int) Int) :=
  [ { name := "v", rows := 2, cols := 1, pyType := "float", aliases := [],
      attrs := fun j => if j = 1 then .mx true (fun e => [e.1]) else .py 0 },
    { name := "y", rows := 1, cols := 1, pyType := "float", aliases := ["w"],
      attrs := fun j => if j = 1 then .mx true (fun e => [e.2]) else if j = 2 then .mx true (fun e => [2 * e.2]) else .py 0 },
    { name := "z", rows := 1, cols := 1, pyType := "float", aliases := [],
      attrs := fun j => if j = 2 then .mx true (fun e => [e.1 + e.2]) else if j = 3 then .mx false (fun _ => [7]) else .py 0 } ]

def showAttr (e : Int × Int) : LAttr Int (Int × Int) Int → List Int
  | .py _ => [] | .mx g => g e

-- the hypotheses are satisfiable and the statement is not vacuous: at (p, q) = (10, 100)
example : (loadCat (0, 0) (saveCat 6 (fun p => [p]) exVars)).map (fun lv => (lv.name, lv.row0, showAttr (10, 100) (lv.attrs 1), showAttr (10, 100) (lv.attrs 2)))
    = [("v", 0, [10, 10], []), ("y", 2, [100], [200]), ("z", 3, [], [110])] := by decide +kernel
example : AttrWF ((0, 0) : Int × Int) (exVars[2].attrs 3) := by intro e; rfl
-- durations: three delays depending on {5}, {6}, {5, 6}: the second keeps a false dependency
example : maskSets (unionOf [[5], [6], [5, 6]]) (unionOf [[5], [6], [5, 6]]).length [[5], [6], [5, 6]]
    = [some [5], some [5, 6], some [5, 6]] := by decide +kernel
example : All2 (DependsOnly (V := Int)) [fun env => env 5, fun env => env 6 + 1] [[5], [6]] :=
  All2.cons (fun _ _ h => h 5 (by simp)) (All2.cons (fun _ _ h => by simp [h 6 (by simp)]) All2.nil)
-- classification examples: `2*p0 + 1` dependent; `3 - 1` independent; `0 * p0` dependent (and NaN at NaN)
example : classify (Attr.ofExprs (P := Unit) [.add (.mul (.const 2) (.param 0)) (.const 1)]) = Dep.dependent := by decide +kernel
example : classify (Attr.ofExprs (P := Unit) [.sub (.const 3) (.const 1)]) = Dep.independent := by decide +kernel
example : (PExpr.mul (.const 0) (.param 0)).eval (fun _ => none) = none := by decide +kernel
end examples

end PymocaVerif.CacheMeta

namespace PymocaVerif.CacheState

variable {M : Type}

/-- Option comparison of `load_model`: a model is served from the cache only if the stored
    option set equals the current one in every key — `mtime_check`, `cache`, `codegen`,
    `expand_mx` and the whole rest (every other key with its value, default or not) — except
    the excluded `library_folders`; and the stored version is the current one and the file is
    complete. -/
theorem served_only_for_equal_options (cfg : Cfg M) (w : World M) (o : Opts) (m : M)
    (h : load cfg w o = .hit m) :
    ∃ c, w.cache = some c ∧ m = c.db.model ∧ c.complete = true ∧ c.db.version = w.version ∧
      c.db.opts.mtimeCheck = o.mtimeCheck ∧ c.db.opts.cache = o.cache ∧ c.db.opts.codegen = o.codegen ∧
      c.db.opts.expandMx = o.expandMx ∧ c.db.opts.rest = o.rest ∧
      (cfg.exclLibs = false → c.db.opts.libs = o.libs) := by
  obtain ⟨c, hc, _, hcomp, hv, hopts, hm⟩ := load_eq_hit_iff.1 h
  obtain ⟨h1, h2, h3, h4, h5, h6⟩ := optsMatch_iff.1 hopts
  exact ⟨c, hc, hm.symm, hcomp, hv, h2, h3, h4, h5, h6,
    fun hex => h1.elim (fun h => by rw [hex] at h; cases h) id⟩

/-- Contrapositive, for one key of the rest (e.g. `detect_aliases`, or a key that is not among
    the defaults such as `iterative_simplification`): a different value, or the key being
    present on one side only, is never a hit. -/
theorem differing_option_is_never_served (cfg : Cfg M) (w : World M) (o : Opts) (c : CacheFile M)
    (hc : w.cache = some c) (hdiff : c.db.opts.rest ≠ o.rest) : ∀ m, load cfg w o ≠ .hit m := by
  intro m h
  obtain ⟨c', hc', _, _, _, _, _, _, _, hrest, _⟩ := served_only_for_equal_options cfg w o m h
  rw [hc] at hc'
  cases hc'
  exact hdiff hrest

-- satisfiable: the same options with and without a non-default key differ in `rest`
example : ([("detect_aliases", "False")] : List (String × String)) ≠
    [("detect_aliases", "False"), ("iterative_simplification", "True")] := by decide +kernel

end PymocaVerif.CacheState
