import PymocaVerif.Model.Attr
import Mathlib.Tactic.Ring
/-!
Lemmas for C13, and the notions its theorems are stated with: expressions (constants, the affine rebuild
`J(0)·p + f(0)`, linearity of `J(0)·p`), coercion (`Py.fits`), what is stored against what is declared
(`declEntries`, `Var.fits`, the numerals of the tree walk), and the layout of the metadata columns (`Var.wf`).
-/
namespace PymocaVerif.Attr

/-- `python_type(v)` does not change the number `v` stands for: no truncation of a non-integral
    float to `int`, no collapse of a number other than 0/1 to `bool` -/
def Py.fits (t : PType) : Py → Prop
  | .int i => t = .bool → (i = 0 ∨ i = 1)
  | .bool _ => True
  | .float (.fin q) => (t = .int → ((truncRat q : Int) : Rat) = q) ∧ (t = .bool → (q = 0 ∨ q = 1))
  | .float _ => t ≠ .bool

/-- The declared attribute, element by element, *before* any coercion: the default object of
    `Variable.__init__` when nothing is declared, the literal's number, the array's elements in
    column-major order, the element expressions, the fill value. -/
def declEntries (v : Var) (a : AttrName) : List Entry :=
  if v.isDer then [.const (defaultNum a)] else
  match v.decl a with
  | none => [.const (defaultNum a)]
  | some (.lit l) => [.const l.toPy.num]
  | some (.arr rows) => (colMajor rows).map fun l => .const l.toPy.num
  | some (.expr e) => (List.range e.numel).map fun k => .ex (e.elem k)
  | some (.arrE rows) => (colMajor rows).map fun e => .ex (e.elem 0)
  | some (.dmat rows) => (colMajor rows).map fun x => .const (.fin x)
  | some (.dm x) => List.replicate (if v.dims.isEmpty then 1 else v.numel) (.const (.fin x))

/-- the declaration of attribute `a` of `v` is compatible with the variable's type -/
def Var.fits (v : Var) (a : AttrName) : Prop :=
  match v.decl a with
  | some (.lit l) => l.toPy.fits v.ptype
  | some (.expr e) => match e.walk with
    | .py q => (Py.float (.fin q)).fits v.ptype
    | .dm q => v.dims.isEmpty = true → (Py.float (.fin q)).fits v.ptype
    | .mx => True
  | some (.dm x) => v.dims.isEmpty = true → (Py.float (.fin x)).fits v.ptype
  | _ => True

/-- number of entries before block `i` -/
def offsetOf {α : Type} (len : α → Nat) (vs : List α) (i : Nat) : Nat := ((vs.take i).map len).sum

/-- every attribute of the variable has, once stored, one element or as many as the variable -/
def Var.wf (v : Var) : Prop :=
  ∀ a, ((store v a).entries a).length = 1 ∨ ((store v a).entries a).length = v.numel

namespace E

theorem eval_const (e : E) (h : e.const = true) (p q : Nat → Rat) : e.eval p = e.eval q := by
  induction e with
  | num _ => rfl
  | par _ _ | ite _ _ _ _ _ => cases h
  | neg a ih | abs a ih =>
    unfold eval
    rw [ih h]
  | add a b iha ihb | sub a b iha ihb | mul a b iha ihb | div a b iha ihb | max a b iha ihb
  | min a b iha ihb =>
    have h := Bool.and_eq_true_iff.1 h
    unfold eval
    rw [iha h.1, ihb h.2]

/-- On affine expressions `J(0)·p` is the increment from the origin.  Where the test demands a constant
    factor or divisor, `eval_const` moves it to the origin and the rest is arithmetic. -/
theorem jvp0_eq (e : E) (h : e.affine = true) (p : Nat → Rat) :
    e.jvp0 p = e.eval p - e.eval (fun _ => 0) := by
  induction e with
  | num _ | par _ _ => simp [jvp0, eval]
  | neg a ih =>
    simp only [jvp0, eval, ih h]
    ring
  | add a b iha ihb | sub a b iha ihb =>
    have h := Bool.and_eq_true_iff.1 h
    simp only [jvp0, eval, iha h.1, ihb h.2]
    ring
  | mul a b iha ihb =>
    simp only [affine, Bool.and_eq_true, Bool.or_eq_true] at h
    simp only [jvp0, eval, iha h.1.1, ihb h.1.2]
    rcases h.2 with hc | hc
    · rw [eval_const a hc p fun _ => 0]
      ring
    · rw [eval_const b hc p fun _ => 0]
      ring
  | div a b iha ihb =>
    simp only [affine, Bool.and_eq_true] at h
    simp only [jvp0, eval, iha h.1.1, ihb h.1.2, eval_const b h.2 p fun _ => 0]
    by_cases hd : b.eval (fun _ => 0) = 0
    · simp [hd]
    · rw [sub_self, mul_zero, sub_zero, mul_div_mul_right _ _ hd, sub_div]
  | abs _ _ | max _ _ _ _ | min _ _ _ _ | ite _ _ _ _ _ => simp [affine] at h

theorem rebuild_eq_eval (e : E) (h : e.affine = true) (p : Nat → Rat) : e.rebuild p = e.eval p := by
  rw [rebuild, jvp0_eq e h, sub_add_cancel]

theorem jvp0_linear (e : E) (c d : Rat) (p q : Nat → Rat) :
    e.jvp0 (fun i => c * p i + d * q i) = c * e.jvp0 p + d * e.jvp0 q := by
  induction e <;> simp only [jvp0, *] <;> ring

theorem jvp0_add (e : E) (p q : Nat → Rat) :
    e.jvp0 (fun i => p i + q i) = e.jvp0 p + e.jvp0 q := by
  simpa using jvp0_linear e 1 1 p q

theorem jvp0_smul (e : E) (c : Rat) (p : Nat → Rat) :
    e.jvp0 (fun i => c * p i) = c * e.jvp0 p := by
  simpa using jvp0_linear e c 0 p p

end E

theorem Entry.rebuilt_eq_eval (e : Entry) (h : e.affine = true) (p : Nat → Rat) : e.rebuilt p = e.eval p := by
  cases e with
  | const x => rfl
  | ex e =>
    simp only [Entry.rebuilt, Entry.eval]
    rw [E.rebuild_eq_eval e h p]

theorem pyCast_num (t : PType) (v : Py) (h : v.fits t) : ((pyCast t v).getD v).num = v.num := by
  cases t with
  | float => cases v <;> rfl
  | int =>
    match v, h with
    | .int _, _ => rfl
    | .bool b, _ => cases b <;> rfl
    | .float (.fin q), h => exact congrArg Num.fin (h.1 rfl)
    | .float .nan, _ | .float .ninf, _ | .float .pinf, _ => rfl
  | bool =>
    match v, h with
    | .int i, h => rcases h rfl with rfl | rfl <;> rfl
    | .bool _, _ => rfl
    | .float (.fin q), h => rcases h.2 rfl with rfl | rfl <;> rfl
    | .float .nan, h | .float .ninf, h | .float .pinf, h => exact absurd rfl h

theorem coerce_num (t : PType) (v : Py) (h : v.fits t) : (coerce t v).num = v.num := by
  unfold coerce
  split
  · rfl
  · exact pyCast_num t v h

/-- the number a walk delivers, when it is a Python number or a 1×1 `DM` -/
def E.Walk.val? : E.Walk → Option Rat
  | .py q => some q
  | .dm q => some q
  | .mx => none

theorem E.walk_neg_val (a : E) : (E.neg a).walk.val? = a.walk.val?.map (- ·) := by
  rw [E.walk]
  cases a.walk <;> rfl

theorem E.walk_mul_val (a b : E) :
    (E.mul a b).walk.val? = a.walk.val?.bind fun x => b.walk.val?.map (x * ·) := by
  rw [E.walk]
  cases a.walk <;> cases b.walk <;> rfl

theorem E.walk_value (e : E) (q : Rat) (h : e.walk.val? = some q) (k : Nat) (p : Nat → Rat) :
    e.numel = 1 ∧ (e.elem k).eval p = q := by
  induction e generalizing q with
  | num r =>
    cases h
    exact ⟨rfl, rfl⟩
  | neg a ih =>
    rw [E.walk_neg_val] at h
    obtain ⟨r, hr, rfl⟩ := Option.map_eq_some_iff.1 h
    exact ⟨(ih r hr).1, congrArg (- ·) (ih r hr).2⟩
  | mul a b iha ihb =>
    rw [E.walk_mul_val] at h
    obtain ⟨x, hx, h⟩ := Option.bind_eq_some_iff.1 h
    obtain ⟨y, hy, rfl⟩ := Option.map_eq_some_iff.1 h
    refine ⟨?_, ?_⟩
    · rw [E.numel, (iha x hx).1, (ihb y hy).1]
      rfl
    · rw [E.elem, E.eval, (iha x hx).2, (ihb y hy).2]
  | par _ _ | add _ _ _ _ | sub _ _ _ _ | div _ _ _ _ | abs _ _ | max _ _ _ _ | min _ _ _ _
  | ite _ _ _ _ _ => cases h

theorem store_of_isDer (v : Var) (a : AttrName) (h : v.isDer = true) : store v a = .dflt := by
  rw [store, if_pos h]

theorem store_of_decl_none (v : Var) (a : AttrName) (hd : v.isDer = false) (h : v.decl a = none)
    (ha : a ≠ .fixed) : store v a = .dflt := by
  rw [store, if_neg (Bool.eq_false_iff.1 hd), h]
  cases a with
  | fixed => exact absurd rfl ha
  | value | min | max | start | nominal => rfl

/-- `fixed` is always set by the generator: to the AST's `False` when the source says nothing -/
theorem store_fixed_none (v : Var) (hd : v.isDer = false) (h : v.decl .fixed = none) :
    store v .fixed = .py (coerce v.ptype (.bool false)) := by
  rw [store, if_neg (Bool.eq_false_iff.1 hd), h]
  rfl

theorem entries_store_none (v : Var) (a : AttrName) (h : v.decl a = none) :
    (store v a).entries a = [.const (defaultNum a)] := by
  cases hd : v.isDer
  · by_cases ha : a = .fixed
    · subst ha
      rw [store_fixed_none v hd h]
      show [Entry.const (coerce v.ptype (.bool false)).num] = _
      rw [coerce_num v.ptype (.bool false) trivial]
      rfl
    · rw [store_of_decl_none v a hd h ha]
      rfl
  · rw [store_of_isDer v a hd]
    rfl

theorem declEntries_of_isDer (v : Var) (a : AttrName) (h : v.isDer = true) :
    declEntries v a = [.const (defaultNum a)] := by
  rw [declEntries, if_pos h]

theorem declEntries_none (v : Var) (a : AttrName) (h : v.decl a = none) :
    declEntries v a = [.const (defaultNum a)] := by
  rw [declEntries, h]
  split <;> rfl

theorem bcast_singleton (n : Nat) (x : Entry) : bcast n [x] = List.replicate n x := rfl

theorem bcast_of_length_ne_one (n : Nat) (xs : List Entry) (h : xs.length ≠ 1) : bcast n xs = xs := by
  match xs with
  | [] => rfl
  | [_] => exact absurd rfl h
  | _ :: _ :: _ => rfl

theorem bcast_length (n : Nat) (xs : List Entry) (h : xs.length = 1 ∨ xs.length = n) :
    (bcast n xs).length = n := by
  by_cases h1 : xs.length = 1
  · obtain ⟨x, rfl⟩ := List.length_eq_one_iff.1 h1
    exact List.length_replicate
  · rw [bcast_of_length_ne_one n xs h1]
    exact h.resolve_left h1

theorem bcast_getElem (n : Nat) (xs : List Entry) (k : Nat) (hk : k < n) :
    (bcast n xs)[k]? = if xs.length = 1 then xs[0]? else xs[k]? := by
  by_cases h1 : xs.length = 1
  · obtain ⟨x, rfl⟩ := List.length_eq_one_iff.1 h1
    rw [bcast_singleton, if_pos h1, List.getElem?_replicate, if_pos hk]
    rfl
  · rw [bcast_of_length_ne_one n xs h1, if_neg h1]

theorem offsetOf_zero {α : Type} (len : α → Nat) (vs : List α) : offsetOf len vs 0 = 0 := rfl

theorem offsetOf_succ {α : Type} (len : α → Nat) (w : α) (ws : List α) (i : Nat) :
    offsetOf len (w :: ws) (i + 1) = len w + offsetOf len ws i := rfl

theorem flatMap_getElem_of {α β : Type} (f : α → List β) (len : α → Nat) {vs : List α}
    (h : ∀ v ∈ vs, (f v).length = len v) {i k : Nat} {v : α} (hv : vs[i]? = some v) (hk : k < len v) :
    (vs.flatMap f)[offsetOf len vs i + k]? = (f v)[k]? := by
  induction vs generalizing i with
  | nil => cases hv
  | cons w ws ih =>
    have hw := h w List.mem_cons_self
    cases i with
    | zero =>
      obtain rfl : w = v := Option.some.inj hv
      rw [offsetOf_zero, Nat.zero_add, List.flatMap_cons, List.getElem?_append_left (hw ▸ hk)]
    | succ i =>
      rw [offsetOf_succ, List.flatMap_cons, Nat.add_assoc, List.getElem?_append_right (by omega), hw,
        Nat.add_sub_cancel_left]
      exact ih (fun u hu => h u (List.mem_cons_of_mem _ hu)) hv

theorem Var.column_length (v : Var) (h : v.wf) (a : AttrName) : (v.column a).length = v.numel :=
  bcast_length _ _ (h a)

theorem column_length (vs : List Var) (h : ∀ v ∈ vs, v.wf) (a : AttrName) :
    (column vs a).length = (vs.map Var.numel).sum := by
  rw [column, List.length_flatMap, List.map_congr_left fun v hv => Var.column_length v (h v hv) a]

/-- the metadata function without the rebuild -/
def metadataDirect (lists : List (List Var)) (p : Nat → Rat) : Option (List (List (List Num))) :=
  lists.mapM fun vs =>
    let cols := casadiAttributes.map fun a => (column vs a).map fun e => e.eval p
    let n := (cols.head?.map List.length).getD 0
    if cols.all (fun c => c.length == n) then some cols else none

theorem mapM_option_congr {α β : Type} (f g : α → Option β) (l : List α) (h : ∀ x ∈ l, f x = g x) :
    l.mapM f = l.mapM g := by
  induction l with
  | nil => rfl
  | cons x xs ih =>
    rw [List.mapM_cons, List.mapM_cons, h x List.mem_cons_self, ih fun y hy => h y (List.mem_cons_of_mem _ hy)]

theorem mapM_option_some {α β : Type} (f : α → Option β) (g : α → β) (l : List α)
    (h : ∀ x ∈ l, f x = some (g x)) : l.mapM f = some (l.map g) :=
  (mapM_option_congr f (fun x => pure (g x)) l h).trans List.mapM_pure

end PymocaVerif.Attr
