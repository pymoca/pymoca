import PymocaVerif.Lemmas.SimplifyBase
/-!
# Simplify: the passes that substitute or move variables: what each returns, and that solutions are kept
-/
set_option linter.unusedSectionVars false
namespace PymocaVerif.Simplify
open PymocaVerif.AliasRel Lean.Grind

variable {K : Type} [Field K] [DecidableEq K]

theorem holdsL_of_values {I : Interp K} {σ : Env K} {vs : List (Var K)} {l : List (String × Ex K)}
    (h : ValOk I σ vs) (hl : ∀ p ∈ l, ∃ v ∈ vs, v.name = p.1 ∧ v.value = some p.2) : HoldsL I σ l := by
  intro p hp
  obtain ⟨v, hv, hn, ht⟩ := hl p hp
  exact hn ▸ h v hv _ ht

theorem mem_exprValues_iff {vs : List (Var K)} {p : String × Ex K} :
    p ∈ exprValues vs ↔ ∃ v ∈ vs, v.name = p.1 ∧ v.value = some p.2 ∧ p.2.isConst = false := by
  unfold exprValues
  rw [List.mem_filterMap]
  refine exists_congr fun v => and_congr_right fun _ => ?_
  split
  · rename_i e hv
    split
    · rename_i he
      refine ⟨nofun, fun ⟨_, h2, h3⟩ => ?_⟩
      rw [← Option.some.inj (hv.symm.trans h2), he] at h3
      cases h3
    · rename_i he
      simp only [Option.some.injEq, Prod.ext_iff]
      exact ⟨fun ⟨h1, h2⟩ => ⟨h1, h2 ▸ hv, h2 ▸ Bool.eq_false_iff.2 he⟩,
        fun ⟨h1, h2, _⟩ => ⟨h1, Option.some.inj (hv.symm.trans h2)⟩⟩
  · rename_i hv
    refine ⟨nofun, fun ⟨_, h2, _⟩ => ?_⟩
    rw [hv] at h2
    cases h2

theorem mem_constValues_iff {vs : List (Var K)} {p : String × Ex K} :
    p ∈ constValues vs ↔ ∃ v ∈ vs, v.name = p.1 ∧ v.value = some p.2 ∧ ∃ c, p.2 = .const c := by
  unfold constValues
  rw [List.mem_filterMap]
  refine exists_congr fun v => and_congr_right fun _ => ?_
  split
  · rename_i c hv
    simp only [hv, Option.some.injEq, Prod.ext_iff]
    exact ⟨fun ⟨h1, h2⟩ => ⟨h1, h2, c, h2.symm⟩, fun ⟨h1, h2, _⟩ => ⟨h1, h2⟩⟩
  · rename_i hv
    exact ⟨nofun, fun ⟨_, h2, c, hc⟩ => (hv c (hc ▸ h2)).elim⟩

theorem exprValues_holds {I : Interp K} {σ : Env K} {vs : List (Var K)} (h : ValOk I σ vs) :
    HoldsL I σ (exprValues vs) :=
  holdsL_of_values h fun _ hp => (mem_exprValues_iff.1 hp).imp fun _ ⟨hv, hn, ht, _⟩ => ⟨hv, hn, ht⟩

theorem constValues_holds {I : Interp K} {σ : Env K} {vs : List (Var K)} (h : ValOk I σ vs) :
    HoldsL I σ (constValues vs) :=
  holdsL_of_values h fun _ hp => (mem_constValues_iff.1 hp).imp fun _ ⟨hv, hn, ht, _⟩ => ⟨hv, hn, ht⟩

theorem constValues_fst (vs : List (Var K)) : (constValues vs).map (·.1) = names (vs.filter hasConstValue) := by
  induction vs with
  | nil => rfl
  | cons a as ih =>
    simp only [constValues, List.filterMap_cons, List.filter_cons] at ih ⊢
    cases hav : a.value with
    | none =>
      simp [hasConstValue, hav]
      exact ih
    | some e =>
      cases e <;> simp [hasConstValue, hav, names] <;> exact ih

theorem exprValues_fst (vs : List (Var K)) : (exprValues vs).map (·.1) = names (vs.filter fun v => !v.simple) := by
  induction vs with
  | nil => rfl
  | cons a as ih =>
    simp only [exprValues, List.filterMap_cons, List.filter_cons] at ih ⊢
    cases hav : a.value with
    | none =>
      simp [Var.simple, hav]
      exact ih
    | some e =>
      by_cases hc : e.isConst = true
      · simp [Var.simple, hav, hc]
        exact ih
      · simp [Var.simple, hav, hc, names]
        exact ih

theorem allValues_ok : ∀ {vs : List (Var K)} {l : List (String × Ex K)}, allValues vs = .ok l →
    vs.map (fun v => (v.name, v.value)) = l.map fun p => (p.1, some p.2)
  | [], l, h => by cases h; rfl
  | v :: vs, l, h => by
    simp only [allValues] at h
    split at h
    · cases h
    · rename_i e he
      cases hr : allValues vs with
      | error err =>
        rw [hr] at h
        cases h
      | ok l' =>
        rw [hr] at h
        cases h
        rw [List.map_cons, List.map_cons, allValues_ok hr, he]

theorem allValues_mem {vs : List (Var K)} {l : List (String × Ex K)} (h : allValues vs = .ok l) (n : String) (t : Ex K) :
    (n, t) ∈ l ↔ ∃ v ∈ vs, v.name = n ∧ v.value = some t := by
  have e : (n, t) ∈ l ↔ (n, some t) ∈ l.map fun p => (p.1, some p.2) :=
    ⟨fun hp => List.mem_map.2 ⟨_, hp, rfl⟩, fun hm => by
      obtain ⟨p, hp, e⟩ := List.mem_map.1 hm
      cases e
      exact hp⟩
  rw [e, ← allValues_ok h, List.mem_map]
  exact exists_congr fun v => and_congr_right fun _ => Prod.mk.injEq ..  ▸ Iff.rfl

theorem allValues_fst {vs : List (Var K)} {l : List (String × Ex K)} (h : allValues vs = .ok l) :
    l.map (·.1) = names vs := by
  have := congrArg (List.map (·.1)) (allValues_ok h)
  rw [List.map_map, List.map_map] at this
  exact this.symm

theorem allValues_holds {I : Interp K} {σ : Env K} {vs : List (Var K)} {l : List (String × Ex K)}
    (hl : allValues vs = .ok l) (h : ValOk I σ vs) : HoldsL I σ l :=
  holdsL_of_values h fun p hp => (allValues_mem hl p.1 p.2).1 hp

/-! ## resolve_parameter_values -/

theorem valueOf_spec (m : Model K) (n : String) (t : Ex K) (h : valueOf m n = some t) :
    ∃ v ∈ m.params ++ m.consts, v.name = n ∧ v.value = some t := by
  unfold valueOf at h
  obtain ⟨v, hf, hv⟩ := Option.bind_eq_some_iff.1 h
  exact ⟨v, List.mem_of_find?_eq_some hf, by simpa using List.find?_some hf, hv⟩

/-- the bindings one round of the loop substitutes -/
def readyOf (m : Model K) (cur : List String) : List (String × Ex K) :=
  cur.filterMap fun n => match valueOf m n with
    | some (.const c) => some (n, Ex.const c)
    | _ => none

theorem readyOf_mem {m : Model K} {cur : List String} {p : String × Ex K} (hp : p ∈ readyOf m cur) :
    ∃ v ∈ m.params ++ m.consts, v.name = p.1 ∧ v.value = some p.2 ∧ ∃ c, p.2 = .const c := by
  obtain ⟨n, _, hn⟩ := List.mem_filterMap.1 hp
  split at hn
  · rename_i c hv
    cases hn
    exact (valueOf_spec m n _ hv).imp fun v ⟨hv, hn, ht⟩ => ⟨hv, hn, ht, c, rfl⟩
  · cases hn

theorem holds_ready {I : Interp K} {σ : Env K} {m : Model K} (hp : ValOk I σ m.params) (hc : ValOk I σ m.consts)
    (cur : List String) : HoldsL I σ (readyOf m cur) :=
  holdsL_of_values (valok_append.2 ⟨hp, hc⟩) fun _ hp' => (readyOf_mem hp').imp fun _ ⟨hv, hn, ht, _⟩ => ⟨hv, hn, ht⟩

/-- the bindings of a round are constants, so they can be read off after the substitution as well -/
theorem holds_ready_after {I : Interp K} {E : Engine K} (hE : EngineOk I E) {σ : Env K} {m : Model K}
    (l : List (String × Ex K)) (h : Sat I σ (substMeta E l m)) (cur : List String) : HoldsL I σ (readyOf m cur) := by
  intro p hp'
  obtain ⟨v, hv, hn, hval, c, hc⟩ := readyOf_mem hp'
  have hv' := List.mem_map_of_mem (f := Var.mapValue (E.sub l)) hv
  rw [List.map_append] at hv'
  have := valok_append.2 ⟨h.params, h.consts⟩ _ hv' (E.sub l p.2) (by rw [Var.mapValue, hval]; rfl)
  rw [hc] at this ⊢
  exact hn ▸ this.trans (by rw [Engine.sub, hE.norm_eval]; rfl)

theorem resolveLoop_sat {I : Interp K} {E : Engine K} (hE : EngineOk I E) {σ : Env K} (fuel : Nat) (cur : List String)
    (m : Model K) : Sat I σ (resolveLoop E fuel cur m) ↔ Sat I σ m := by
  fun_induction resolveLoop E fuel cur m
  case case1 => rfl
  case case2 => rfl
  case case3 fuel cur m _ _ _ ih =>
    rw [ih]
    exact ⟨fun h => (sat_substMeta hE (holds_ready_after hE _ h cur) m).1 h,
      fun h => (sat_substMeta hE (holds_ready h.params h.consts cur) m).2 h⟩

theorem resolve_sat {I : Interp K} {E : Engine K} (hE : EngineOk I E) {σ : Env K} (m : Model K) :
    Sat I σ (resolveParameterValues E m) ↔ Sat I σ m := resolveLoop_sat hE _ _ _

/-! ## the `for _ in range(SUBSTITUTE_LOOP_LIMIT)` fixpoint of the `replace_*_expressions` and elimination passes -/

theorem zip_fst_snd {α β} (l : List (α × β)) : (l.map (·.1)).zip (l.map (·.2)) = l :=
  (List.zip_of_prod rfl rfl).symm

theorem fixValues_induct {E : Engine K} {syms : List String} {P : List (Ex K) → Prop}
    (step : ∀ vs, P vs → P (vs.map (E.sub (syms.zip vs)))) : ∀ (fuel : Nat) (vs : List (Ex K)), P vs →
    P (fixValues E syms fuel vs).1
  | 0, _, h => h
  | fuel + 1, vs, h => by
    simp only [fixValues]
    split
    · exact step vs h
    · exact fixValues_induct step fuel _ (step vs h)

theorem fixValues_length (E : Engine K) (syms : List String) (fuel : Nat) (vs : List (Ex K)) :
    (fixValues E syms fuel vs).1.length = vs.length :=
  fixValues_induct (P := fun ws => ws.length = vs.length) (fun _ h => (List.length_map ..).trans h) fuel vs rfl

theorem holdsL_zip_map {I : Interp K} {σ : Env K} {f : Ex K → Ex K} (syms : List String) (vs : List (Ex K))
    (hf : ∀ v ∈ vs, (f v).eval I σ = v.eval I σ) (h : HoldsL I σ (syms.zip vs)) :
    HoldsL I σ (syms.zip (vs.map f)) := by
  rw [List.zip_map_right]
  intro p hp
  obtain ⟨q, hq, rfl⟩ := List.mem_map.1 hp
  exact (h q hq).trans (hf q.2 (List.of_mem_zip hq).2).symm

theorem fixValues_holds {I : Interp K} {E : Engine K} (hE : EngineOk I E) {σ : Env K} (syms : List String)
    (fuel : Nat) (vs : List (Ex K)) (h : HoldsL I σ (syms.zip vs)) : HoldsL I σ (syms.zip (fixValues E syms fuel vs).1) :=
  fixValues_induct (P := fun ws => HoldsL I σ (syms.zip ws))
    (fun ws h => holdsL_zip_map syms ws (fun v _ => sub_eval hE h v) h) fuel vs h

/-- the bindings `eliminable_variable_expression` substitutes, given what the loop extracted -/
def elimList (E : Engine K) (l0 : List (String × Ex K)) : List (String × Ex K) :=
  (l0.map (·.1)).zip (fixValues E (l0.map (·.1)) 100 (l0.map (·.2))).1

theorem elimList_fst (E : Engine K) (l0 : List (String × Ex K)) : (elimList E l0).map (·.1) = l0.map (·.1) :=
  List.map_fst_zip (by rw [fixValues_length, List.length_map, List.length_map]; exact Nat.le_refl _)

/-- the bindings `replace_*_expressions` substitutes for the variables `vs` -/
def fixedList (E : Engine K) (vs : List (Var K)) : List (String × Ex K) :=
  ((exprValues vs).map (·.1)).zip (fixValues E ((exprValues vs).map (·.1)) 100 ((exprValues vs).map (·.2))).1

theorem fixedList_fst (E : Engine K) (vs : List (Var K)) : (fixedList E vs).map (·.1) = (exprValues vs).map (·.1) :=
  elimList_fst E _

theorem fixedList_holds {I : Interp K} {E : Engine K} (hE : EngineOk I E) {σ : Env K} {vs : List (Var K)}
    (h : ValOk I σ vs) : HoldsL I σ (fixedList E vs) :=
  fixValues_holds hE _ 100 _ (by rw [zip_fst_snd]; exact exprValues_holds h)

theorem sat_substEverywhere {I : Interp K} {E : Engine K} (hE : EngineOk I E) {σ : Env K} {l : List (String × Ex K)}
    (hl : HoldsL I σ l) {m : Model K} : Sat I σ (substEverywhere E l m) ↔ Sat I σ m := by
  unfold substEverywhere
  rw [sat_substMeta hE hl]
  exact sat_mapEqs (fun e _ => by rw [sub_eval hE hl]) rfl rfl rfl rfl

/-! ## replace_parameter_expressions / replace_constant_expressions

Both passes take the variables with a non-constant value out of their list and then do the same thing
with them: -/

/-- substitute the resolved values of the expression-valued variables among `vs` everywhere in `m₀` -/
def substFixed (E : Engine K) (vs : List (Var K)) (m₀ : Model K) : Model K :=
  if (exprValues vs).isEmpty then m₀ else
  { substEverywhere E (fixedList E vs) m₀ with
    warned := m₀.warned ||
      !(fixValues E ((exprValues vs).map (·.1)) 100 ((exprValues vs).map (·.2))).2 }

theorem replaceParameterExpressions_eq (E : Engine K) (m : Model K) :
    replaceParameterExpressions E m = substFixed E m.params { m with params := m.params.filter Var.simple } := rfl

theorem replaceConstantExpressions_eq (E : Engine K) (m : Model K) :
    replaceConstantExpressions E m = substFixed E m.consts { m with consts := m.consts.filter Var.simple } := rfl

theorem substFixed_cases (E : Engine K) (vs : List (Var K)) (m₀ : Model K) :
    (exprValues vs = [] ∧ substFixed E vs m₀ = m₀) ∨
      ∃ w, substFixed E vs m₀ = { substEverywhere E (fixedList E vs) m₀ with warned := w } := by
  unfold substFixed
  split
  · exact .inl ⟨List.isEmpty_iff.1 ‹_›, rfl⟩
  · exact .inr ⟨_, rfl⟩

theorem substFixed_sound {I : Interp K} {E : Engine K} (hE : EngineOk I E) {σ : Env K} {vs : List (Var K)}
    {m₀ : Model K} (hv : ValOk I σ vs) (h : Sat I σ m₀) : Sat I σ (substFixed E vs m₀) := by
  obtain ⟨_, he⟩ | ⟨w, he⟩ := substFixed_cases E vs m₀ <;> rw [he]
  · exact h
  · have := (sat_substEverywhere hE (fixedList_holds hE hv)).2 h
    exact ⟨this.eqs, this.params, this.consts, this.alias⟩

theorem pexpr_sound {I : Interp K} {E : Engine K} (hE : EngineOk I E) {σ : Env K} (m : Model K)
    (h : Sat I σ m) : Sat I σ (replaceParameterExpressions E m) :=
  substFixed_sound hE h.params ⟨h.eqs, valok_filter _ h.params, h.consts, h.alias⟩

theorem cexpr_sound {I : Interp K} {E : Engine K} (hE : EngineOk I E) {σ : Env K} (m : Model K)
    (h : Sat I σ m) : Sat I σ (replaceConstantExpressions E m) :=
  substFixed_sound hE h.consts ⟨h.eqs, h.params, valok_filter _ h.consts, h.alias⟩

/-! ## replace_parameter_values / replace_constant_values -/

theorem replaceParameterValues_ok {E : Engine K} {m m' : Model K} (h : replaceParameterValues E m = .ok m') :
    ∃ ar, removeAliased (m.params.filter hasConstValue) m.ar = .ok ar ∧
      m' = substEverywhere E (constValues m.params)
        { m with ar := ar, params := m.params.filter (fun v => !hasConstValue v) } := by
  unfold replaceParameterValues at h
  cases hr : removeAliased (m.params.filter hasConstValue) m.ar with
  | error err =>
    rw [hr] at h
    cases h
  | ok ar =>
    rw [hr] at h
    cases h
    exact ⟨ar, rfl, rfl⟩

theorem replaceConstantValues_ok {E : Engine K} {m m' : Model K} (h : replaceConstantValues E m = .ok m') :
    ∃ l ar, allValues (m.consts.filter Var.simple) = .ok l ∧
      removeAliased (m.consts.filter Var.simple) m.ar = .ok ar ∧
      m' = substEverywhere E l { m with ar := ar, consts := m.consts.filter (fun v => !v.simple) } := by
  unfold replaceConstantValues at h
  simp only at h
  cases hv : allValues (m.consts.filter Var.simple) with
  | error err =>
    rw [hv] at h
    cases h
  | ok l =>
    cases hr : removeAliased (m.consts.filter Var.simple) m.ar with
    | error err =>
      rw [hv, hr] at h
      cases h
    | ok ar =>
      rw [hv, hr] at h
      cases h
      exact ⟨l, ar, rfl, rfl, rfl⟩

theorem pvalues_sound {I : Interp K} {E : Engine K} (hE : EngineOk I E) {σ : Env K} {m m' : Model K}
    (h : replaceParameterValues E m = .ok m') (hs : Sat I σ m) : Sat I σ m' := by
  obtain ⟨ar, hr, rfl⟩ := replaceParameterValues_ok h
  exact (sat_substEverywhere hE (constValues_holds hs.params)).2
    ⟨hs.eqs, valok_filter _ hs.params, hs.consts, removeAliased_aliasOk hs.alias hr⟩

theorem cvalues_sound {I : Interp K} {E : Engine K} (hE : EngineOk I E) {σ : Env K} {m m' : Model K}
    (h : replaceConstantValues E m = .ok m') (hs : Sat I σ m) : Sat I σ m' := by
  obtain ⟨l, ar, hl, hr, rfl⟩ := replaceConstantValues_ok h
  exact (sat_substEverywhere hE (allValues_holds hl (valok_filter _ hs.consts))).2
    ⟨hs.eqs, hs.params, valok_filter _ hs.consts, removeAliased_aliasOk hs.alias hr⟩

/-! ## eliminate_constant_assignments -/

theorem constAssign_cases {algs : List String} {e : Ex K} {n : String} {c : K}
    (h : constAssign? algs e = some (n, c)) :
    n ∈ algs ∧ ((e = .sym n ∧ c = 0) ∨
      ∃ o c', (e = .bin o (.sym n) (.const c') ∨ e = .bin o (.const c') (.sym n)) ∧
        ((o = .sub ∧ c = c') ∨ (o = .add ∧ c = -c'))) := by
  have sign : ∀ {o : BOp} (c' : K), o = .sub ∨ o = .add →
      (o = .sub ∧ (if o = .sub then c' else -c') = c') ∨ (o = .add ∧ (if o = .sub then c' else -c') = -c') := by
    rintro o c' (rfl | rfl)
    · exact .inl ⟨rfl, rfl⟩
    · exact .inr ⟨rfl, rfl⟩
  revert h
  fun_cases constAssign? algs e <;> intro h
  case case1 hm =>
    cases h
    exact ⟨hm, .inl ⟨rfl, rfl⟩⟩
  case case3 ho _ _ hm =>
    cases h
    exact ⟨hm, .inr ⟨_, _, .inl rfl, sign _ ho⟩⟩
  case case5 ho _ _ hm =>
    cases h
    exact ⟨hm, .inr ⟨_, _, .inr rfl, sign _ ho⟩⟩
  all_goals cases h

theorem constAssign_iff {I : Interp K} {σ : Env K} {algs : List String} {e : Ex K} {n : String} {c : K}
    (h : constAssign? algs e = some (n, c)) : e.eval I σ = 0 ↔ σ n = c := by
  obtain ⟨_, ⟨rfl, rfl⟩ | ⟨o, c', rfl | rfl, ⟨rfl, rfl⟩ | ⟨rfl, rfl⟩⟩⟩ := constAssign_cases h
  · exact Iff.rfl
  · exact AddCommGroup.sub_eq_zero_iff
  · exact add_eq_zero_iff
  · exact sub_eq_zero_iff'
  · exact add_eq_zero_iff'

theorem constAssign_mem {algs : List String} {e : Ex K} {n : String} {c : K}
    (h : constAssign? algs e = some (n, c)) : n ∈ algs := (constAssign_cases h).1

theorem constLoop_iff {I : Interp K} {σ : Env K} (es : List (Ex K)) (algs : List (Var K)) :
    EqOk I σ es ↔ EqOk I σ (constLoop es algs).1 ∧ ValOk I σ (constLoop es algs).2.1 := by
  fun_induction constLoop es algs
  case case1 => exact ⟨fun _ => ⟨nofun, nofun⟩, fun _ => nofun⟩
  case case2 e es algs n c h r vs ih =>
    show _ ↔ EqOk I σ r.1 ∧ ValOk I σ (vs ++ r.2.1)
    rw [eqok_cons, ih, valok_append, constAssign_iff (I := I) (σ := σ) h]
    obtain ⟨v, hv, hvn⟩ := List.mem_map.1 (constAssign_mem h)
    -- every copy of the eliminated variable records the same fact `σ n = c`
    have key : ValOk I σ vs ↔ σ n = c := by
      unfold ValOk
      rw [List.forall_mem_map]
      constructor
      · intro hval
        exact hvn ▸ hval v (List.mem_filter.2 ⟨hv, by simp [hvn]⟩) (Ex.const c) rfl
      · intro hn w hw t ht
        cases ht
        rw [show w.name = n by simpa using (List.mem_filter.1 hw).2]
        exact hn
    rw [key, and_left_comm]
  case case3 e es algs h r ih =>
    show _ ↔ EqOk I σ (e :: r.1) ∧ ValOk I σ r.2.1
    rw [eqok_cons, eqok_cons, ih, and_assoc]

theorem cassign_sat {I : Interp K} {σ : Env K} (m : Model K) :
    Sat I σ (eliminateConstantAssignments m) ↔ Sat I σ m := by
  rw [sat_iff, sat_iff, constLoop_iff (I := I) (σ := σ) m.eqs m.algs]
  show _ ∧ _ ∧ ValOk I σ (m.consts ++ (constLoop m.eqs m.algs).2.1) ∧ _ ↔ _
  rw [valok_append]
  exact ⟨fun ⟨h1, h2, ⟨h3, h4⟩, h5⟩ => ⟨⟨h1, h4⟩, h2, h3, h5⟩, fun ⟨⟨h1, h4⟩, h2, h3, h5⟩ => ⟨h1, h2, ⟨h3, h4⟩, h5⟩⟩

end PymocaVerif.Simplify
