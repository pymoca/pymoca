import PymocaVerif.Lemmas.GenExpr
import PymocaVerif.Lemmas.GenRange
/-!
# Lemmas for C11: equations, if-equations, for-equations, lists of equations, the delay-argument list
-/
namespace PymocaVerif.Gen
open PymocaVerif.ExprSem

theorem evalC_vcat_ofList (P : Prims K) (ρ : Env K) (ts : List (CTerm K)) :
    evalC P ρ (.vcat (CTerms.ofList ts)) = (evalCL P ρ ts).map List.flatten := by
  simp only [evalC, evalCs_ofList]
  cases evalCL P ρ ts <;> rfl

theorem evalC_lhsTerm (P : Prims K) (ρ : Env K) : ∀ tl : List (CTerm K),
    evalC P ρ (lhsTerm tl) = (evalCL P ρ tl).map List.flatten
  | [] => rfl
  | [t] => by
    simp only [lhsTerm, evalCL]
    cases evalC P ρ t with
    | none => rfl
    | some v => exact congrArg some (List.append_nil v).symm
  | t1 :: t2 :: rest => evalC_vcat_ofList P ρ _

theorem genL_length {P : Prims K} {o : Opts} {T : FTab K} {es : List (MExpr K)} {ts : List (CTerm K)}
    (h : genL P o T es = .ok ts) : ts.length = es.length := by
  induction es generalizing ts with
  | nil => cases h; rfl
  | cons e es ih =>
    obtain ⟨t, ts', _, hts, rfl⟩ := bind2_ok.mp h
    exact congrArg (· + 1) (ih hts)

section
variable {P : Prims K} {o : Opts} {T : FTab K} {F : FSem K} (hT : TabOK P T F) (hS : NoShadow T)
include hT hS

theorem genL_refines {es : List (MExpr K)} {ts : List (CTerm K)} (h : genL P o T es = .ok ts) (ρ : Env K) :
    Refines (evalCL P ρ ts) (evalML P F ρ es) := by
  induction es generalizing ts with
  | nil => cases h; exact Refines.refl
  | cons e es ih =>
    obtain ⟨t, ts', ht, hts, rfl⟩ := bind2_ok.mp h
    exact Refines.cons (gen_refines hT hS e ht ρ) (ih hts)

theorem genSEq_refines {e : SEq K} {c : CTerm K} (h : genSEq P o T e = .ok c) (ρ : Env K) :
    Refines (evalC P ρ c) (residualSEq P F ρ e) := by
  obtain ⟨tl, tr, htl, htr, rfl⟩ := bind2_ok.mp h
  intro v hv
  obtain ⟨lv, hlv, hv⟩ := Option.bind_eq_some_iff.mp hv
  obtain ⟨r, hr, hv⟩ := Option.bind_eq_some_iff.mp hv
  have hL : evalC P ρ (lhsTerm tl) = some lv.flatten := by
    rw [evalC_lhsTerm, genL_refines hT hS htl ρ lv hlv]
    rfl
  have hR := gen_refines hT hS e.r htr ρ r hr
  have hk : knownFn T = fun f => (F f).isSome := funext hT.dom
  rw [hk]
  -- both sides take the same branch: a call of a known function on the right, or not
  generalize rhsIsCall (fun f => (F f).isSome) e.r = isCall at hv ⊢
  cases isCall
  · simp only [evalC, hL, hR, Bool.false_eq_true, if_false, Option.bind_eq_bind, Option.bind_some]
    exact hv
  · simp only [evalC, hL, hR, if_true, Option.bind_eq_bind, Option.bind_some]
    exact hv

theorem genBlock_refines {b : List (SEq K)} {ts : List (CTerm K)} (h : genBlock P o T b = .ok ts) (ρ : Env K) :
    Refines (evalC P ρ (.vcat (CTerms.ofList ts))) (residualBlock P F ρ b) := by
  induction b generalizing ts with
  | nil => cases h; exact Refines.refl
  | cons e es ih =>
    obtain ⟨t, ts', ht, hts, rfl⟩ := bind2_ok.mp h
    intro v hv
    obtain ⟨v1, v2, h1, h2, rfl⟩ := bind2_eq_some.mp hv
    have e2 := ih hts v2 h2
    rw [evalC_vcat_ofList] at e2 ⊢
    obtain ⟨vs', hvs', rfl⟩ := Option.map_eq_some_iff.mp e2
    simp only [evalCL, genSEq_refines hT hS ht ρ v1 h1, hvs', Option.bind_eq_bind, Option.bind_some,
      Option.map_some, List.flatten_cons]

theorem nestAll_refines_residualIf (ρ : Env K) {cs : List (MExpr K)} {bs : List (List (SEq K))}
    {tcs tbs : List (CTerm K)} (hc : genL P o T cs = .ok tcs) (hb : genBlocks P o T bs = .ok tbs) :
    Refines (evalC P ρ (nestAll tcs tbs)) (residualIf P F ρ cs bs) := by
  induction cs generalizing bs tcs tbs with
  | nil =>
    cases hc
    match bs, hb with
    | [], _ => exact nofun
    | _ :: _ :: _, _ => exact nofun
    | [b], hb =>
      obtain ⟨tb, rest, htb, hrest, rfl⟩ := bind2_ok.mp hb
      cases hrest
      exact genBlock_refines hT hS htb ρ
  | cons c cs ih =>
    cases bs with
    | nil => exact nofun
    | cons b bs =>
      obtain ⟨tc, tcs', htc, htcs', rfl⟩ := bind2_ok.mp hc
      obtain ⟨tb, tbs', htb, htbs', rfl⟩ := bind2_ok.mp hb
      exact Refines.bind (gen_refines hT hS c htc ρ) (fun _ => Refines.bind_same (fun _ =>
        Refines.ite (genBlock_refines hT hS htb ρ) (ih htcs' htbs')))

theorem genMEq_refines (ρ : Env K) {q : MEq K} {c : CTerm K} (h : genMEq P o T ρ.idx q = .ok c) :
    Refines (evalC P ρ c) (residualM P F ρ q) := by
  cases q with
  | simple e => exact genSEq_refines hT hS h ρ
  | ifeq cs bs =>
    obtain ⟨tcs, htcs, h2⟩ := bind_ok.mp h
    obtain ⟨tbs, htbs, h3⟩ := bind_ok.mp h2
    split at h3
    · cases h3
    · split at h3
      · rename_i hlen
        cases h3
        rw [foldFromLast_eq_nestAll hlen]
        exact nestAll_refines_residualIf hT hS ρ htcs htbs
      · cases h3
  | foreq i start stop step body =>
    simp only [genMEq] at h
    simp only [residualM]
    cases hstop : stop.eval ρ.idx with
    | none => nofun
    | some hi =>
      simp only [hstop, pure_bind] at h
      rw [Option.bind_eq_bind, Option.bind_some]
      by_cases hs : step = 0
      · rw [if_pos hs] at h
        cases h
      · rw [if_neg hs] at h
        obtain ⟨ts, hts, hc⟩ := bind_ok.mp h
        rw [arangeCode_eq] at hc
        by_cases hemp : (modelicaRange start step hi).isEmpty = true
        · rw [if_pos hemp] at hc
          cases hc
          rw [List.isEmpty_iff.mp hemp]
          exact Refines.refl
        · rw [if_neg hemp] at hc
          cases hc
          exact Refines.bind (rowsOver_refines (fun v => genBlock_refines hT hS hts (ρ.bind i v)) _)
            (fun _ => Refines.refl)

theorem genMEqs_refines (ρ : Env K) {qs : List (MEq K)} {ts : List (CTerm K)}
    (h : genMEqs P o T ρ.idx qs = .ok ts) : Refines (evalCL P ρ ts) (residualsM P F ρ qs) := by
  induction qs generalizing ts with
  | nil => cases h; exact Refines.refl
  | cons q qs ih =>
    obtain ⟨t, ts', ht, hts, rfl⟩ := bind2_ok.mp h
    exact Refines.cons (genMEq_refines hT hS ρ ht) (ih hts)

theorem genDelayArgs_refines {ds : List (Nat × MExpr K × MExpr K)} {ts : List (CTerm K × CTerm K)}
    (h : genDelayArgs P o T ds = .ok ts) (ρ : Env K) :
    Refines (evalCL P ρ (ts.flatMap fun p => [p.1, p.2])) (evalML P F ρ (ds.flatMap fun q => [q.2.1, q.2.2])) := by
  induction ds generalizing ts with
  | nil => cases h; exact Refines.refl
  | cons d rest ih =>
    obtain ⟨te, hte, h2⟩ := bind_ok.mp h
    obtain ⟨td, ts', htd, hts', rfl⟩ := bind2_ok.mp h2
    exact Refines.cons (gen_refines hT hS _ hte ρ) (Refines.cons (gen_refines hT hS _ htd ρ) (ih hts'))

end

theorem genBlocks_refines (P : Prims K) (o : Opts) (T : FTab K) (F : FSem K) (hT : TabOK P T F)
    (hS : NoShadow T) : ∀ (bs : List (List (SEq K))) (ts : List (CTerm K)), genBlocks P o T bs = .ok ts →
    ∀ ρ : Env K, Refines (evalCL P ρ ts) (residualBlocks P F ρ bs)
  | [] => fun ts h ρ => by cases h; exact Refines.refl
  | b :: bs => fun ts h ρ => by
    obtain ⟨tb, rest, htb, hrest, rfl⟩ := bind2_ok.mp h
    exact Refines.cons (genBlock_refines hT hS htb ρ) (genBlocks_refines P o T F hT hS bs rest hrest ρ)

theorem genBlocks_length (P : Prims K) (o : Opts) (T : FTab K) : ∀ (bs : List (List (SEq K)))
    (ts : List (CTerm K)), genBlocks P o T bs = .ok ts → ts.length = bs.length
  | [] => fun ts h => by cases h; rfl
  | b :: bs => fun ts h => by
    obtain ⟨tb, rest, _, hrest, rfl⟩ := bind2_ok.mp h
    exact congrArg (· + 1) (genBlocks_length P o T bs rest hrest)

end PymocaVerif.Gen
