import PymocaVerif.Lemmas.ClassAsmWalk
/-!
# Which descriptions are accepted, and how the others fail

`Accepts x P`: `x` succeeds exactly when `P`, and fails only with the listener's own errors.  One
traversal (`class_fits` / `elems_fits` / `sections_fits`, then `file_fits`) shows that a run from
frame `f` accepts exactly the descriptions that fit `f` (`Fits`); success, rejection and the kind of
failure are read off it.
-/
namespace PymocaVerif.ClassAsm

/-- No component name of the class itself is declared twice and none of its own import clauses clashes
    (nested classes are reached through `ClassSrc.deep` where this is used). -/
def ClassSrc.Clean (c : ClassSrc) : Prop := c.names.Nodup ∧ ∃ imps, importsFold c.imps [] = .ok imps

/-- The failures the listener itself raises. -/
def Err.Listener (e : Err) : Prop := (∃ n, e = .alreadyDefined n) ∨ (∃ n, e = .alreadyImported n)

theorem specDecls_err {cl : ClauseSt} {names : List String} {sec : Nat} {ds : List Decl} {acc : List Sym} {k : Ctr}
    {e : Err} (h : specDecls cl names sec ds acc k = .error e) : e.Listener := by
  induction ds generalizing acc k with
  | nil => cases h
  | cons d t ih =>
    simp only [specDecls] at h
    split at h
    · exact ih h
    · next e' he =>
      cases h
      exact Or.inl ⟨_, (specDecl_err.mp he).2⟩

theorem specClause_err {c : Clause} {f : Frame} {k : Ctr} {e : Err} (h : specClause c f k = .error e) : e.Listener := by
  unfold specClause at h
  simp only [] at h
  split at h
  · cases h
  · next e' he =>
    cases h
    exact specDecls_err he

theorem addRefs_err {imps : List (String × ImportVal)} {path names : List String} {e : Err}
    (h : addRefs imps path names = .error e) : e.Listener := by
  induction names generalizing imps with
  | nil => cases h
  | cons n t ih =>
    simp only [addRefs] at h
    split at h
    · cases h
      exact Or.inr ⟨_, rfl⟩
    · exact ih h

theorem addImport_err {imps : List (String × ImportVal)} {i : ImpSrc} {e : Err}
    (h : addImport imps i = .error e) : e.Listener := by
  cases i with
  | qual path => exact addRefs_err h
  | short n path => cases h
  | star path => cases h
  | list path names => exact addRefs_err h

/-- `x` succeeds exactly when `P` holds, and its failures are the listener's own. -/
def Accepts {α} (x : Except Err α) (P : Prop) : Prop :=
  match x with
  | .ok _ => P
  | .error e => ¬ P ∧ e.Listener

section
variable {α β : Type} {x : Except Err α} {P : Prop}

theorem Accepts.ok_iff (h : Accepts x P) : (∃ r, x = .ok r) ↔ P := by
  cases x with
  | ok r => exact ⟨fun _ => h, fun _ => ⟨r, rfl⟩⟩
  | error e => exact ⟨fun ⟨_, hr⟩ => (nomatch hr), fun hp => absurd hp h.1⟩

theorem Accepts.err (h : Accepts x P) {e : Err} (he : x = .error e) : e.Listener := by
  subst he
  exact h.2

theorem Accepts.congr {Q : Prop} (h : Accepts x P) (hPQ : P ↔ Q) : Accepts x Q := by
  cases x with
  | ok r => exact hPQ.mp h
  | error e => exact ⟨fun hq => h.1 (hPQ.mpr hq), h.2⟩

theorem Accepts.map_ok (h : Accepts x P) (g : α → β) : Accepts (x.bind fun a => .ok (g a)) P := by
  cases x with
  | ok a => exact h
  | error e => exact h

/-- Sequencing: `R` is what the whole asks for, `P` what the first step asks for, `Q a` what is left to
    ask once the first step gave `a`. -/
theorem Accepts.bind {g : α → Except Err β} {R : Prop} {Q : α → Prop}
    (hx : Accepts x P) (hg : ∀ a, x = .ok a → Accepts (g a) (Q a))
    (hRP : R → P) (hR : ∀ a, x = .ok a → P → (R ↔ Q a)) : Accepts (x.bind g) R := by
  cases x with
  | ok a => exact (hg a rfl).congr (hR a rfl hx).symm
  | error e => exact ⟨fun hr => hx.1 (hRP hr), hx.2⟩

end

/-- What a run over elements from frame `f` asks of the description: the component names are new and
    distinct, the import clauses go through, the nested classes are clean. -/
def Fits (f : Frame) (names : List String) (imps : List ImpSrc) (deep : List ClassSrc) : Prop :=
  (names.Nodup ∧ ∀ n ∈ names, n ∉ f.info.symbols.map (·.name)) ∧
  (∃ r, importsFold imps f.info.imports = .ok r) ∧ ∀ c' ∈ deep, c'.Clean

theorem Fits.of_nodup {f : Frame} {names : List String} {imps : List ImpSrc} {deep : List ClassSrc}
    (hn : (f.info.symbols.map (·.name) ++ names).Nodup) (hi : ∃ r, importsFold imps f.info.imports = .ok r)
    (h : ∀ c' ∈ deep, c'.Clean) : Fits f names imps deep :=
  have hn := List.nodup_append.mp hn
  ⟨⟨hn.2.1, fun n h1 h2 => hn.2.2 n h2 n h1 rfl⟩, hi, h⟩

section
variable {α β : Type} {x : Except Err α} {P : Prop} {f : Frame} {n1 n2 : List String} {i1 i2 : List ImpSrc}
  {d1 d2 : List ClassSrc}

theorem Fits.left (h : Fits f (n1 ++ n2) (i1 ++ i2) (d1 ++ d2)) : Fits f n1 i1 d1 := by
  obtain ⟨hn, ⟨r, hi⟩, hd⟩ := h
  rw [importsFold_append, bind_eq_ok] at hi
  obtain ⟨r1, hi1, _⟩ := hi
  exact ⟨(fresh_append.mp hn).1, ⟨r1, hi1⟩, fun c' hc' => hd c' (List.mem_append_left _ hc')⟩

theorem Fits.append {f1 : Frame}
    (hn : f1.info.symbols.map (·.name) = f.info.symbols.map (·.name) ++ n1)
    (hi : importsFold i1 f.info.imports = .ok f1.info.imports) (h1 : Fits f n1 i1 d1) :
    Fits f (n1 ++ n2) (i1 ++ i2) (d1 ++ d2) ↔ Fits f1 n2 i2 d2 := by
  unfold Fits
  rw [fresh_append, importsFold_append, hi, hn, List.forall_mem_append]
  exact ⟨fun ⟨h, hr, hd⟩ => ⟨h.2, hr, hd.2⟩, fun ⟨h, hr, hd⟩ => ⟨⟨h1.1, h⟩, hr, h1.2.2, hd⟩⟩

/-- `Accepts.bind` for a step that leaves frame `fr a` behind, having added the names `n1` and run the
    import clauses `i1`. -/
theorem Accepts.seq {g : α → Except Err β} (fr : α → Frame) (hx : Accepts x (Fits f n1 i1 d1))
    (hfr : ∀ a, x = .ok a → (fr a).info.symbols.map (·.name) = f.info.symbols.map (·.name) ++ n1 ∧
      importsFold i1 f.info.imports = .ok (fr a).info.imports)
    (hg : ∀ a, Accepts (g a) (Fits (fr a) n2 i2 d2)) :
    Accepts (x.bind g) (Fits f (n1 ++ n2) (i1 ++ i2) (d1 ++ d2)) :=
  hx.bind (fun a _ => hg a) Fits.left fun a ha hP => Fits.append (hfr a ha).1 (hfr a ha).2 hP

end

theorem fits_deep {f : Frame} {d : List ClassSrc} : Fits f [] [] d ↔ ∀ c' ∈ d, c'.Clean :=
  ⟨fun h => h.2.2, fun h => ⟨⟨.nil, List.forall_mem_nil _⟩, ⟨_, rfl⟩, h⟩⟩

theorem specClause_fits (c : Clause) (f : Frame) (k : Ctr) : Accepts (specClause c f k) (Fits f c.names [] []) := by
  cases h : specClause c f k with
  | ok p =>
    obtain ⟨h1, h2, _⟩ := specClause_ok.mp h
    exact ⟨⟨h1, h2⟩, ⟨_, rfl⟩, List.forall_mem_nil _⟩
  | error e =>
    exact ⟨fun hf => (nomatch h.symm.trans (specClause_ok.mpr ⟨hf.1.1, hf.1.2, rfl, rfl⟩)), specClause_err h⟩

theorem addImport_fits (i : ImpSrc) (f : Frame) : Accepts (addImport f.info.imports i) (Fits f [] [i] []) := by
  unfold Fits
  rw [importsFold_single]
  cases h : addImport f.info.imports i with
  | ok r => exact ⟨⟨.nil, List.forall_mem_nil _⟩, ⟨r, rfl⟩, List.forall_mem_nil _⟩
  | error e => exact ⟨fun hf => (nomatch hf.2.1), addImport_err h⟩

def Elems.names (es : Elems) : List String := es.clauses.flatMap Clause.names
def Sections.names (ss : Sections) : List String := ss.clauses.flatMap Clause.names

theorem elems_names {es : Elems} {f : Frame} {k : Ctr} {p : Frame × Ctr} (h : specElems es f k = .ok p) :
    p.1.info.symbols.map (·.name) = f.info.symbols.map (·.name) ++ es.names ∧
    importsFold es.imps f.info.imports = .ok p.1.info.imports := by
  have g := (elems_walk _ h).2.1
  obtain ⟨S, hS, hv, _⟩ := g.syms
  refine ⟨?_, g.imps⟩
  rw [hS, List.map_append, names_of_views hv]
  rfl

theorem clean_deep_iff (h : ClassHdr) (first : Elems) (ss : Sections) :
    (∀ c' ∈ (ClassSrc.mk h first ss).deep, c'.Clean) ↔
      Fits (Frame.new h.kind h.partial_ h.encapsulated) (first.names ++ ss.names) (first.imps ++ ss.imps)
        (first.deep ++ ss.deep) := by
  simp only [ClassSrc.deep, List.forall_mem_cons, ClassSrc.Clean, ClassSrc.names, ClassSrc.clauses, ClassSrc.imps,
    List.flatMap_append, Fits, Elems.names, Sections.names]
  exact ⟨fun ⟨⟨h1, h2⟩, h3⟩ => ⟨⟨h1, fun _ _ h => absurd h List.not_mem_nil⟩, h2, h3⟩, fun ⟨⟨h1, _⟩, h2, h3⟩ => ⟨⟨h1, h2⟩, h3⟩⟩

theorem Sections.names_elems (v : Vis) (es : Elems) (t : Sections) :
    (Sections.elems v es t).names = es.names ++ t.names := by
  simp only [Sections.names, Elems.names, Sections.clauses, List.flatMap_append]

mutual
theorem class_fits (c : ClassSrc) {k : Ctr} : Accepts (specClass c k) (∀ c' ∈ c.deep, c'.Clean) := by
  match c with
  | .mk h first ss =>
    rw [specClass_mk]
    refine ((elems_fits first).seq (fun p => { p.1 with closed := p.1.closed ++ [none] })
      (fun p hp => elems_names hp) fun p => (sections_fits ss).map_ok _).congr (clean_deep_iff h first ss).symm
theorem elems_fits (es : Elems) {f : Frame} {k : Ctr} : Accepts (specElems es f k) (Fits f es.names es.imps es.deep) := by
  match es with
  | .nil => exact fits_deep.mpr (List.forall_mem_nil _)
  | .comp c t =>
    rw [specElems_comp]
    refine (specClause_fits c f k).seq (fun p => p.1) (fun p hp => ?_) fun p => elems_fits t
    obtain ⟨f1, k1⟩ := p
    obtain ⟨_, _, rfl, rfl⟩ := specClause_ok.mp hp
    exact ⟨by rw [List.map_append, clauseSyms_names], rfl⟩
  | .ext e t => exact elems_fits t
  | .imp i t =>
    rw [specElems_imp]
    refine (addImport_fits i f).seq (fun imps => { f with info := { f.info with imports := imps } })
      (fun imps hi => ⟨(List.append_nil _).symm, (importsFold_single ..).trans hi⟩) fun imps => elems_fits t
  | .cls c t =>
    rw [specElems_cls]
    refine ((class_fits c).congr fits_deep.symm).seq (fun p => f.attach p.1)
      (fun p _ => ⟨(List.append_nil _).symm, rfl⟩) fun p => elems_fits t
  | .short s t => exact elems_fits t
theorem sections_fits (ss : Sections) {f : Frame} {k : Ctr} :
    Accepts (specSections ss f k) (Fits f ss.names ss.imps ss.deep) := by
  match ss with
  | .nil => exact fits_deep.mpr (List.forall_mem_nil _)
  | .elems v es t =>
    rw [specSections_elems, Sections.names_elems]
    exact (elems_fits es).seq (fun p => { p.1 with closed := p.1.closed ++ [some v] })
      (fun p hp => elems_names hp) fun p => sections_fits t
  | .eqs _ _ t => exact sections_fits t
  | .algs _ _ t => exact sections_fits t
end

theorem elems_deep_nodup (es : Elems) (f : Frame) (k : Ctr) (f' : Frame) (k' : Ctr)
    (h : specElems es f k = .ok (f', k')) : ∀ c' ∈ es.deep, c'.Clean :=
  ((elems_fits es).ok_iff.mp ⟨_, h⟩).2.2

theorem sections_deep_nodup (ss : Sections) (f : Frame) (k : Ctr) (f' : Frame) (k' : Ctr)
    (h : specSections ss f k = .ok (f', k')) : ∀ c' ∈ ss.deep, c'.Clean :=
  ((sections_fits ss).ok_iff.mp ⟨_, h⟩).2.2

theorem elems_err (es : Elems) (f : Frame) (k : Ctr) (e : Err) (h : specElems es f k = .error e) : e.Listener :=
  (elems_fits es).err h

theorem sections_err (ss : Sections) (f : Frame) (k : Ctr) (e : Err) (h : specSections ss f k = .error e) : e.Listener :=
  (sections_fits ss).err h

theorem elems_accepted (es : Elems) (f : Frame) (k : Ctr)
    (hn : (f.info.symbols.map (·.name) ++ es.names).Nodup)
    (hi : ∃ imps, importsFold es.imps f.info.imports = .ok imps)
    (h : ∀ c' ∈ es.deep, c'.Clean) : ∃ f' k', specElems es f k = .ok (f', k') :=
  let ⟨r, hr⟩ := (elems_fits es (k := k)).ok_iff.mpr (.of_nodup hn hi h)
  ⟨r.1, r.2, hr⟩

theorem sections_accepted (ss : Sections) (f : Frame) (k : Ctr)
    (hn : (f.info.symbols.map (·.name) ++ ss.names).Nodup)
    (hi : ∃ imps, importsFold ss.imps f.info.imports = .ok imps)
    (h : ∀ c' ∈ ss.deep, c'.Clean) : ∃ f' k', specSections ss f k = .ok (f', k') :=
  let ⟨r, hr⟩ := (sections_fits ss (k := k)).ok_iff.mpr (.of_nodup hn hi h)
  ⟨r.1, r.2, hr⟩

theorem file_fits (file : List (Bool × ClassSrc)) (acc : List ClassAst) (k : Ctr) :
    Accepts (specFile file acc k) (∀ c ∈ file, ∀ c' ∈ c.2.deep, c'.Clean) := by
  induction file generalizing acc k with
  | nil => exact List.forall_mem_nil _
  | cons x t ih =>
    obtain ⟨fin, c⟩ := x
    rw [specFile_cons]
    exact (class_fits c).bind (fun p _ => ih _ _) (fun h => h _ (List.mem_cons_self ..))
      fun p _ hP => List.forall_mem_cons.trans (and_iff_right hP)

theorem expected_fits (file : List (Bool × ClassSrc)) :
    Accepts (expected file) (∀ c ∈ file, ∀ c' ∈ c.2.deep, c'.Clean) :=
  file_fits file [] _

end PymocaVerif.ClassAsm
