import PymocaVerif.Lemmas.Connect
import Mathlib.Algebra.Group.Basic
import Batteries.Lean.Except
/-!
# Solutions of the equations `expand_connectors` derives

The derived equations are read over an additive commutative group.  `sol_iff`: their solutions are
those of the reference semantics in which exactly the flow symbols never popped have to vanish, so
the two pop policies differ only in that set (`mem_popped_byName`, `mem_popped_byFace`).
-/
namespace PymocaVerif.Connect

section Sem
variable {K : Type} [AddCommGroup K]

/-- Contribution of a flow key to the sum of its connection set: plus for inside connectors,
    minus for outside connectors. -/
def signed (σ : String → K) (k : Key) : K := if k.2 then σ k.1 else - σ k.1

/-- Truth of a derived equation under a valuation of the flat variables. -/
def Eqn.holds (σ : String → K) : Eqn → Prop
  | .pot l r => σ l = σ r
  | .sum ops => (ops.map fun o => if o.2 then - σ o.1 else σ o.1).sum = 0
  | .zero v => σ v = 0

/-- `σ` solves every equation of the list. -/
def Sol (eqs : List Eqn) (σ : String → K) : Prop := ∀ e ∈ eqs, e.holds σ

theorem perm_sum {l1 l2 : List K} (h : l1.Perm l2) : l1.sum = l2.sum :=
  h.foldr_eq' (fun x _ y _ z => add_left_comm y x z) 0

theorem sum_map_neg {α : Type} (s : List α) (f : α → K) :
    (s.map fun k => - f k).sum = - (s.map f).sum := by
  induction s with
  | nil => exact neg_zero.symm
  | cons a s ih => rw [List.map_cons, List.sum_cons, ih, List.map_cons, List.sum_cons, neg_add]

theorem sumEqn_holds (s : List Key) (σ : String → K) :
    (sumEqn s).holds σ ↔ (s.map (signed σ)).sum = 0 := by
  unfold sumEqn
  split
  · next h =>
    -- the all-outside form is the signed sum multiplied by −1
    have e : s.map (signed σ) = s.map fun k => - σ k.1 := List.map_congr_left fun k hk => by
      have hk2 : k.2 = false := by simpa using List.all_eq_true.1 h k hk
      rw [signed, hk2]
      rfl
    rw [e, sum_map_neg, neg_eq_zero, Eqn.holds, List.map_map]
    rfl
  · have e : ((fun o : String × Bool => if o.2 = true then - σ o.1 else σ o.1) ∘
        fun k : Key => (k.1, !k.2)) = signed σ := funext fun ⟨n, b⟩ => by cases b <;> rfl
    rw [Eqn.holds, List.map_map, e]

theorem signed_sum_split (s : List Key) (σ : String → K) :
    (s.map (signed σ)).sum =
      ((s.filter fun k => k.2).map fun k => σ k.1).sum -
      ((s.filter fun k => !k.2).map fun k => σ k.1).sum := by
  induction s with
  | nil => exact (sub_self _).symm
  | cons k s ih =>
    obtain ⟨n, b⟩ := k
    rw [List.map_cons, List.sum_cons, ih]
    cases b
    · rw [List.filter_cons_of_neg Bool.false_ne_true, List.filter_cons_of_pos rfl, List.map_cons,
        List.sum_cons, signed, if_neg Bool.false_ne_true, sub_add_eq_sub_sub, neg_add_eq_sub,
        sub_right_comm]
    · rw [List.filter_cons_of_pos rfl, List.filter_cons_of_neg Bool.false_ne_true, List.map_cons,
        List.sum_cons, signed, if_pos rfl, add_sub_assoc]

end Sem

section Ref
variable {K : Type} [AddCommGroup K]

/-- Reference connection semantics of a flat class as the property text states it, without the
    algorithm: potentials are equal throughout every connected component of the potential-level
    edge graph; for every connected component of the flow-level graph the inside flows minus the
    outside flows sum to zero; every flow symbol that occurs in no connection is zero. -/
structure RefSol (inp : Input) (σ : String → K) : Prop where
  potential : ∀ a b, Conn (potEdges inp.edges) a b → σ a = σ b
  flow : ∀ S, IsComponent (flowEdges inp.edges) S → (S.map (signed σ)).sum = 0
  unconnected : ∀ f ∈ inp.flowSyms, (∀ b, ¬ Touched (flowEdges inp.edges) (f, b)) → σ f = 0

/-- The same with Modelica's face-wise rule for hierarchical models: a flow is zero when the
    *inside* face of its connector is in no connection, unless it belongs to a top-level connector
    that occurs in a connection (which is left to the environment). -/
structure RefSolFace (inp : Input) (σ : String → K) : Prop where
  potential : ∀ a b, Conn (potEdges inp.edges) a b → σ a = σ b
  flow : ∀ S, IsComponent (flowEdges inp.edges) S → (S.map (signed σ)).sum = 0
  unconnected : ∀ f ∈ inp.flowSyms, ¬ Touched (flowEdges inp.edges) (f, true) →
    ¬ TouchedTop inp.edges f → σ f = 0

/-- Both reference semantics, with the condition under which a flow symbol has to vanish left
    open. -/
def RefWith (inp : Input) (σ : String → K) (Z : String → Prop) : Prop :=
  (∀ a b, Conn (potEdges inp.edges) a b → σ a = σ b) ∧
  (∀ S, IsComponent (flowEdges inp.edges) S → (S.map (signed σ)).sum = 0) ∧
  ∀ f ∈ inp.flowSyms, Z f → σ f = 0

theorem refSol_iff (inp : Input) (σ : String → K) :
    RefSol inp σ ↔ RefWith inp σ fun f => ∀ b, ¬ Touched (flowEdges inp.edges) (f, b) :=
  ⟨fun r => ⟨r.potential, r.flow, r.unconnected⟩, fun ⟨a, b, c⟩ => ⟨a, b, c⟩⟩

theorem refSolFace_iff (inp : Input) (σ : String → K) :
    RefSolFace inp σ ↔ RefWith inp σ fun f =>
      ¬ (Touched (flowEdges inp.edges) (f, true) ∨ TouchedTop inp.edges f) :=
  ⟨fun r => ⟨r.potential, r.flow, fun f hf h =>
      r.unconnected f hf (fun q => h (.inl q)) fun q => h (.inr q)⟩,
    fun ⟨a, b, c⟩ => ⟨a, b, fun f hf h1 h2 => c f hf fun q => q.elim h1 h2⟩⟩

theorem RefWith.congr {inp : Input} {σ : String → K} {Z Z' : String → Prop}
    (h : ∀ f ∈ inp.flowSyms, Z f ↔ Z' f) : RefWith inp σ Z ↔ RefWith inp σ Z' :=
  and_congr_right' (and_congr_right' (forall₂_congr fun f hf => by rw [h f hf]))

theorem sol_iff {inp : Input} {eqs : List Eqn} (h : expand inp = .ok eqs) {σ : String → K} :
    Sol eqs σ ↔ RefWith inp σ fun f => f ∉ popped inp.policy inp.edges := by
  rw [expand_ok h]
  simp only [Sol, List.forall_mem_append, List.forall_mem_map, sumEqn_holds, mem_popAll, and_imp,
    and_assoc]
  exact and_congr (eq_along_edges_iff _ σ) (and_congr_left' ((MapInv.of_run _).forall_sets
    fun S T p hS => (perm_sum (p.map (signed σ))).symm.trans hS))

theorem zero_mem_iff {inp : Input} {eqs : List Eqn} (h : expand inp = .ok eqs) {f : String} :
    Eqn.zero f ∈ eqs ↔ f ∈ inp.flowSyms ∧ f ∉ popped inp.policy inp.edges := by
  rw [expand_ok h, ← mem_popAll]
  simp only [List.mem_append, List.mem_map, reduceCtorEq, and_false, exists_false, false_or,
    Eqn.zero.injEq, exists_eq_right, sumEqn]
  exact or_iff_right fun ⟨S, _, hS⟩ => by split at hS <;> cases hS

end Ref

/-- The variables of the connector class of the examples: a potential `v` and a flow `i`. -/
def exP : List CVar := [⟨"v", []⟩, ⟨"i", ["flow"]⟩]
/-- A small circuit: two component connectors and a top-level connector in one set. -/
def exInputWith (pol : PopPolicy) : Input where
  flowSyms := ["o.i", "c1.a.i", "c1.b.i", "c2.a.i"]
  edges := [⟨"", ["c1", "a"], ["c2", "a"], exP⟩, ⟨"", ["o"], ["c1", "a"], exP⟩]
  policy := pol
/-- … under the pop rule of the code before the fix of C09-F1 … -/
def exInput : Input := exInputWith .byName
/-- … and under the rule of the code as it stands. -/
def exInputFace : Input := exInputWith .byFace

theorem expand_exInputWith (pol : PopPolicy) :
    expand (exInputWith pol) = .ok [.pot "c1.a.v" "c2.a.v", .pot "o.v" "c1.a.v",
      .sum [("c1.a.i", false), ("c2.a.i", false), ("o.i", true)], .zero "c1.b.i"] := by
  cases pol <;> decide +kernel

/-- A hierarchical class: `c.p` is connected inside `C` (outside face) and nowhere in the top class. -/
def exNested (pol : PopPolicy) : Input where
  flowSyms := ["c.p.i", "c.r.a.i"]
  edges := [⟨"c.", ["p"], ["r", "a"], exP⟩]
  policy := pol

end PymocaVerif.Connect
