import PymocaVerif.Model.ObjGraph
/-!
The hypotheses of the statements about `ObjGraph`, and what they rest on: the order on memos and the
renaming of an object's references through a memo (`renFields`); regions (`Region`: a set of objects
closed under references, without per-instance hooks), `TreeShaped`, `Detached`, `NoScope`.  All of
them read the heap inside the region only, so they carry over to every heap that has the region's
objects unchanged (`AgreeOn`): one that extends it (a copy only appends), or one edited elsewhere.
The executable checks of the model imply them, so that on a concrete heap they are discharged by
`decide`, and the driver tests them on snapshots of real trees.
-/
namespace PymocaVerif.ObjGraph

def Cfg.Good (cfg : Cfg) : Prop :=
  cfg.memoTest = .byId ∧ cfg.hookRebind = .removed ∧ cfg.argRebind = .removed

theorem prefix_get {α : Type} {l₁ l₂ : List α} (h : l₁ <+: l₂) {i : Nat} (hi : i < l₁.length) :
    l₂[i]? = l₁[i]? := by
  rw [List.prefix_iff_getElem?.mp h i hi, List.getElem?_eq_getElem hi]

theorem lt_of_get {α : Type} {l : List α} {i : Nat} {a : α} (h : l[i]? = some a) : i < l.length :=
  (List.getElem?_eq_some_iff.mp h).1

theorem prefix_set {α : Type} {l₁ l₂ : List α} (h : l₁ <+: l₂) {n : Nat} (hn : l₁.length ≤ n) (a : α) :
    l₁ <+: l₂.set n a := by
  obtain ⟨t, rfl⟩ := h
  rw [List.set_append, if_neg (Nat.not_lt.mpr hn)]
  exact List.prefix_append _ _

theorem mget_cons (a b : Nat) (m : Memo) (x : Nat) :
    mget ((a, b) :: m) x = if a = x then some b else mget m x := rfl

theorem mget_cons_self {a b : Nat} {m : Memo} : mget ((a, b) :: m) a = some b := by
  rw [mget_cons, if_pos rfl]

theorem mget_cons_ne {a x : Nat} (h : a ≠ x) (b : Nat) (m : Memo) : mget ((a, b) :: m) x = mget m x := by
  rw [mget_cons, if_neg h]

theorem mget_cons_eq_some {x y a b : Nat} {m : Memo} :
    mget ((x, y) :: m) a = some b ↔ (x = a ∧ y = b) ∨ (x ≠ a ∧ mget m a = some b) := by
  by_cases h : x = a
  · subst h
    simp [mget_cons_self]
  · simp [mget_cons_ne h, h]

def MemoLe (m m' : Memo) : Prop := ∀ a b, mget m a = some b → mget m' a = some b

theorem MemoLe.refl (m : Memo) : MemoLe m m := fun _ _ h => h
theorem MemoLe.trans {m1 m2 m3 : Memo} (h12 : MemoLe m1 m2) (h23 : MemoLe m2 m3) : MemoLe m1 m3 :=
  fun a b h => h23 a b (h12 a b h)

theorem MemoLe.push {m : Memo} {x y : Nat} (hx : mget m x = none) : MemoLe m ((x, y) :: m) := by
  intro a b h
  have hxa : x ≠ a := fun e => by rw [e, h] at hx; cases hx
  rw [mget_cons_ne hxa]
  exact h

theorem MemoLe.isSome {m m' : Memo} (hle : MemoLe m m') {a : Nat} (h : (mget m a).isSome) :
    (mget m' a).isSome := by
  obtain ⟨b, hb⟩ := Option.isSome_iff_exists.mp h
  rw [hle a b hb]
  rfl

theorem MemoLe.isNone {m m' : Memo} (hle : MemoLe m m') {a : Nat} (h : (mget m' a).isNone) :
    (mget m a).isNone := by
  cases hm : mget m a with
  | none => rfl
  | some b =>
    rw [hle a b hm] at h
    cases h

def renField (m : Memo) : Field → Option Field
  | .own i => (mget m i).map Field.own
  | .par i => (mget m i).map Field.par
  | .scp i => some (.scp i)

def renFields (m : Memo) : List Field → Option (List Field)
  | [] => some []
  | f :: fs =>
    match renField m f, renFields m fs with
    | some g, some gs => some (g :: gs)
    | _, _ => none

theorem renField_own {m : Memo} {i j : Nat} (h : mget m i = some j) : renField m (.own i) = some (.own j) := by
  rw [renField, h]
  rfl

theorem renField_par {m : Memo} {i j : Nat} (h : mget m i = some j) : renField m (.par i) = some (.par j) := by
  rw [renField, h]
  rfl

theorem renField_inv {m : Memo} {f g : Field} (h : renField m f = some g) :
    g.tag = f.tag ∧ (g = f ∨ mget m f.id = some g.id) := by
  cases f with
  | scp i =>
    cases h
    exact ⟨rfl, Or.inl rfl⟩
  | own i =>
    obtain ⟨j, hj, rfl⟩ := Option.map_eq_some_iff.mp h
    exact ⟨rfl, Or.inr hj⟩
  | par i =>
    obtain ⟨j, hj, rfl⟩ := Option.map_eq_some_iff.mp h
    exact ⟨rfl, Or.inr hj⟩

theorem renField_mono {m m' : Memo} (hle : MemoLe m m') {f g : Field} (h : renField m f = some g) :
    renField m' f = some g := by
  cases f with
  | scp i => exact h
  | own i =>
    obtain ⟨j, hj, rfl⟩ := Option.map_eq_some_iff.mp h
    exact renField_own (hle i j hj)
  | par i =>
    obtain ⟨j, hj, rfl⟩ := Option.map_eq_some_iff.mp h
    exact renField_par (hle i j hj)

theorem renFields_cons {m : Memo} {f g : Field} {fs gs : List Field} (hf : renField m f = some g)
    (hfs : renFields m fs = some gs) : renFields m (f :: fs) = some (g :: gs) := by
  rw [renFields, hf, hfs]

theorem renFields_induct {m : Memo} {P : List Field → List Field → Prop} (nil : P [] [])
    (cons : ∀ f g fs gs, renField m f = some g → renFields m fs = some gs → P fs gs → P (f :: fs) (g :: gs))
    {fs gs : List Field} (h : renFields m fs = some gs) : P fs gs := by
  fun_induction renFields m fs generalizing gs with
  | case1 =>
    cases h
    exact nil
  | case2 f fs g gs' hfs hf ih =>
    cases h
    exact cons f g fs gs' hf hfs (ih hfs)
  | case3 => cases h

theorem renFields_mono {m m' : Memo} (hle : MemoLe m m') {fs gs : List Field}
    (h : renFields m fs = some gs) : renFields m' fs = some gs :=
  renFields_induct (P := fun fs gs => renFields m' fs = some gs) rfl
    (fun _ _ _ _ hf _ ih => renFields_cons (renField_mono hle hf) ih) h

theorem renFields_mem {m : Memo} {fs gs : List Field} (h : renFields m fs = some gs) :
    ∀ g ∈ gs, ∃ f ∈ fs, renField m f = some g :=
  renFields_induct (P := fun fs gs => ∀ g ∈ gs, ∃ f ∈ fs, renField m f = some g)
    (fun _ hg => nomatch hg)
    (fun f g fs gs hf _ ih g' hg' => by
      rcases List.mem_cons.mp hg' with rfl | hg'
      · exact ⟨f, List.mem_cons_self, hf⟩
      · obtain ⟨f', hf', hr⟩ := ih g' hg'
        exact ⟨f', List.mem_cons_of_mem _ hf', hr⟩) h

theorem renFields_mem_inv {m : Memo} {fs gs : List Field} (h : renFields m fs = some gs) {g : Field}
    (hg : g ∈ gs) :
    match g with
    | .own c => ∃ i, Field.own i ∈ fs ∧ mget m i = some c
    | .par p => ∃ i, Field.par i ∈ fs ∧ mget m i = some p
    | .scp i => Field.scp i ∈ fs := by
  obtain ⟨f, hf, hr⟩ := renFields_mem h g hg
  cases f with
  | own i =>
    obtain ⟨j, hj, rfl⟩ := Option.map_eq_some_iff.mp hr
    exact ⟨i, hf, hj⟩
  | par i =>
    obtain ⟨j, hj, rfl⟩ := Option.map_eq_some_iff.mp hr
    exact ⟨i, hf, hj⟩
  | scp i =>
    cases hr
    exact hf

theorem renFields_map {m : Memo} {β : Type} {F G : Field → β} {fs gs : List Field}
    (h : renFields m fs = some gs) :
    (∀ f ∈ fs, ∀ g, renField m f = some g → G g = F f) → gs.map G = fs.map F :=
  renFields_induct (P := fun fs gs => (∀ f ∈ fs, ∀ g, renField m f = some g → G g = F f) → gs.map G = fs.map F)
    (fun _ => rfl)
    (fun f g fs gs hf _ ih hp => by
      rw [List.map_cons, List.map_cons, hp f List.mem_cons_self g hf,
        ih fun f' hf' => hp f' (List.mem_cons_of_mem _ hf')]) h

theorem parentOf_ren {m : Memo} {fs gs : List Field} (h : renFields m fs = some gs) :
    parentOfFields gs = (parentOfFields fs).bind (mget m) :=
  renFields_induct (P := fun fs gs => parentOfFields gs = (parentOfFields fs).bind (mget m)) rfl
    (fun f g fs gs hf _ ih => by
      cases f with
      | par i =>
        obtain ⟨j, hj, rfl⟩ := Option.map_eq_some_iff.mp hf
        exact hj.symm
      | own i =>
        obtain ⟨j, hj, rfl⟩ := Option.map_eq_some_iff.mp hf
        exact ih
      | scp i => cases hf; exact ih) h

theorem parentOfFields_mem {fs : List Field} {p : Nat} (h : parentOfFields fs = some p) : Field.par p ∈ fs := by
  fun_induction parentOfFields fs with
  | case1 => cases h
  | case2 i r =>
    cases h
    exact List.mem_cons_self
  | case3 f r _ ih => exact List.mem_cons_of_mem _ (ih h)

/-- A set of objects of `H` closed under references, without per-instance hooks; `par` occurs only in
    classes and is the parent `Class.__deepcopy__` reads. -/
structure Region (H : Heap) (R : Nat → Prop) : Prop where
  valid : ∀ a, R a → ∃ o, H[a]? = some o
  hooks : ∀ a o, R a → H[a]? = some o → o.hook = none
  closed : ∀ a o f, R a → H[a]? = some o → f ∈ o.fields → R f.id
  parU : ∀ a o i, R a → H[a]? = some o → Field.par i ∈ o.fields →
    o.kind = .cls ∧ parentOfFields o.fields = some i

theorem Region.lt {H : Heap} {R : Nat → Prop} (hR : Region H R) {a : Nat} (ha : R a) : a < H.length := by
  obtain ⟨o, ho⟩ := hR.valid a ha
  exact lt_of_get ho

def OwnEdge (h : Heap) (a c : Nat) : Prop := ∃ o, h[a]? = some o ∧ Field.own c ∈ o.fields

theorem ownIds_mem_iff {o : Obj} {v : Nat} : v ∈ ownIds o ↔ Field.own v ∈ o.fields := by
  unfold ownIds
  rw [List.mem_filterMap]
  constructor
  · rintro ⟨f, hf, hv⟩
    cases f with
    | own i =>
      cases hv
      exact hf
    | par i => cases hv
    | scp i => cases hv
  · exact fun h => ⟨Field.own v, h, rfl⟩

inductive OwnReach (h : Heap) : Nat → Nat → Prop
  | refl (a : Nat) : OwnReach h a a
  | step {a b c : Nat} : OwnReach h a b → OwnEdge h b c → OwnReach h a c

theorem OwnReach.trans {h : Heap} {a b c : Nat} (hab : OwnReach h a b) (hbc : OwnReach h b c) :
    OwnReach h a c := by
  induction hbc with
  | refl => exact hab
  | step _ e ih => exact OwnReach.step ih e

theorem OwnReach.head {h : Heap} {a b c : Nat} (e : OwnEdge h a b) (hbc : OwnReach h b c) :
    OwnReach h a c :=
  OwnReach.trans (OwnReach.step (OwnReach.refl a) e) hbc

/-- every `own` reference into a class comes from that class's parent (parsed trees: a class is
    held by the `classes` dict of its parent only) -/
def TreeShaped (H : Heap) (R : Nat → Prop) : Prop :=
  ∀ a c oa oc, R a → H[a]? = some oa → Field.own c ∈ oa.fields → H[c]? = some oc → oc.kind = .cls →
    parentOfFields oc.fields = some a

/-- the parent of `x` is not `x` and nothing below `x` holds an `own` reference to it -/
def Detached (H : Heap) (x : Nat) : Prop :=
  ∀ o p, H[x]? = some o → parentOfFields o.fields = some p →
    p ≠ x ∧ ∀ a, OwnReach H x a → ¬ OwnEdge H a p

/-- no `scope` references inside the region (a tree as the parser and the API build it) -/
def NoScope (H : Heap) (R : Nat → Prop) : Prop :=
  ∀ a o i, R a → H[a]? = some o → Field.scp i ∉ o.fields

theorem view_succ (h : Heap) (k x : Nat) :
    view h (k + 1) x = match h[x]? with
      | none => View.cut
      | some o => View.node o.kind o.name o.label (o.fields.map fun f => (f.tag, view h k f.id)) := rfl

def AgreeOn (R : Nat → Prop) (H G : Heap) : Prop := ∀ a, R a → G[a]? = H[a]?

section agree
variable {H G : Heap} {R : Nat → Prop}

theorem Region.agreeOn_of_prefix (hR : Region H R) (h : H <+: G) : AgreeOn R H G :=
  fun _ ha => prefix_get h (hR.lt ha)

theorem Region.congr (hR : Region H R) (h : AgreeOn R H G) : Region G R :=
  { valid := fun a ha => by rw [h a ha]; exact hR.valid a ha
    hooks := fun a o ha ho => hR.hooks a o ha (h a ha ▸ ho)
    closed := fun a o f ha ho hf => hR.closed a o f ha (h a ha ▸ ho) hf
    parU := fun a o i ha ho hi => hR.parU a o i ha (h a ha ▸ ho) hi }

theorem TreeShaped.congr (hts : TreeShaped H R) (hR : Region H R) (h : AgreeOn R H G) : TreeShaped G R := by
  intro a c oa oc ha hoa hc hoc hk
  rw [h a ha] at hoa
  rw [h c (hR.closed a oa _ ha hoa hc)] at hoc
  exact hts a c oa oc ha hoa hc hoc hk

theorem NoScope.congr (hns : NoScope H R) (h : AgreeOn R H G) : NoScope G R :=
  fun a o i ha ho => hns a o i ha (h a ha ▸ ho)

theorem view_agree (hR : Region H R) (h : AgreeOn R H G) : ∀ k a, R a → view G k a = view H k a := by
  intro k
  induction k with
  | zero => exact fun _ _ => rfl
  | succ k ih =>
    intro a ha
    rw [view_succ, view_succ, h a ha]
    cases ho : H[a]? with
    | none => rfl
    | some o =>
      simp only
      congr 1
      exact List.map_congr_left fun f hf => by rw [ih f.id (hR.closed a o f ha ho hf)]

theorem ownReach_of_agree (hR : Region H R) (h : AgreeOn R H G) {y : Nat} (hy : R y) :
    ∀ i, OwnReach G y i → OwnReach H y i ∧ R i := by
  intro i hi
  induction hi with
  | refl => exact ⟨OwnReach.refl y, hy⟩
  | step _ e ih =>
    obtain ⟨o, ho, hc⟩ := e
    rw [h _ ih.2] at ho
    exact ⟨OwnReach.step ih.1 ⟨o, ho, hc⟩, hR.closed _ o _ ih.2 ho hc⟩

theorem Detached.congr {x : Nat} (hd : Detached H x) (hR : Region H R) (hx : R x) (h : AgreeOn R H G) :
    Detached G x := by
  intro o p ho hp
  obtain ⟨hne, hno⟩ := hd o p (h x hx ▸ ho) hp
  refine ⟨hne, fun a ha ⟨oa, hoa, hc⟩ => ?_⟩
  obtain ⟨ha', hRa⟩ := ownReach_of_agree hR h hx a ha
  exact hno a ha' ⟨oa, h a hRa ▸ hoa, hc⟩

end agree

theorem Region.agreeOn_append {H : Heap} {R : Nat → Prop} (hR : Region H R) (e : Heap) : AgreeOn R H (H ++ e) :=
  hR.agreeOn_of_prefix (List.prefix_append H e)

theorem Region.append {H : Heap} {R : Nat → Prop} (hR : Region H R) (e : Heap) : Region (H ++ e) R :=
  hR.congr (hR.agreeOn_append e)

theorem TreeShaped.append {H : Heap} {R : Nat → Prop} (hts : TreeShaped H R) (hR : Region H R) (e : Heap) :
    TreeShaped (H ++ e) R :=
  hts.congr hR (hR.agreeOn_append e)

theorem Detached.append {H : Heap} {R : Nat → Prop} {x : Nat} (hd : Detached H x) (hR : Region H R)
    (hx : R x) (e : Heap) : Detached (H ++ e) x :=
  hd.congr hR hx (hR.agreeOn_append e)

theorem allIdx_spec {H : Heap} {p : Nat → Obj → Bool} (h : allIdx H p = true) :
    ∀ i o, H[i]? = some o → p i o = true := by
  intro i o ho
  unfold allIdx at h
  have := List.all_eq_true.mp h i (List.mem_range.mpr (lt_of_get ho))
  rw [ho] at this
  exact this

theorem allIdx_fields {H : Heap} {q : Nat → Obj → Field → Bool}
    (h : (allIdx H fun a o => o.fields.all (q a o)) = true) {a : Nat} {o : Obj} {f : Field}
    (ho : H[a]? = some o) (hf : f ∈ o.fields) : q a o f = true :=
  List.all_eq_true.mp (allIdx_spec h a o ho) f hf

theorem region_of_wfCheck {H : Heap} (h : wfCheck H = true) : Region H (fun a => a < H.length) := by
  have sp := allIdx_spec h
  simp only [Bool.and_eq_true, List.all_eq_true] at sp
  exact
    { valid := fun a ha => ⟨H[a], List.getElem?_eq_getElem ha⟩
      hooks := fun a o _ ho => Option.isNone_iff_eq_none.mp (sp a o ho).1.1
      closed := fun a o f _ ho hf => of_decide_eq_true ((sp a o ho).1.2 f hf)
      parU := fun a o i _ ho hi => by simpa using (sp a o ho).2 _ hi }

theorem treeShaped_of_check {H : Heap} (h : treeCheck H = true) : TreeShaped H (fun a => a < H.length) := by
  intro a c oa oc _ hoa hc hoc hk
  have := allIdx_fields h hoa hc
  simp only [hoc] at this
  simpa [hk] using this

theorem noScope_of_check {H : Heap} (h : noScopeCheck H = true) : NoScope H (fun a => a < H.length) :=
  fun _ _ _ _ ho hi => nomatch allIdx_fields h ho hi

section rank
variable {H : Heap} {d : List Nat} (h : rankCheck H d = true)
include h

theorem rank_own {a c : Nat} (e : OwnEdge H a c) : d.getD a 0 < d.getD c 0 := by
  obtain ⟨o, ho, hc⟩ := e
  exact of_decide_eq_true (allIdx_fields h ho hc)

theorem rank_mono {x a : Nat} (hr : OwnReach H x a) : d.getD x 0 ≤ d.getD a 0 := by
  induction hr with
  | refl => exact Nat.le_refl _
  | step _ e ih => exact Nat.le_trans ih (Nat.le_of_lt (rank_own h e))

/-- the parent lies above `x`, everything reachable from `x` at or below it, and `own` references go down -/
theorem detached_of_rank (x : Nat) : Detached H x := by
  intro o p ho hp
  have hlt : d.getD p 0 < d.getD x 0 := of_decide_eq_true (allIdx_fields h ho (parentOfFields_mem hp))
  exact ⟨fun hpx => absurd (hpx ▸ hlt) (Nat.lt_irrefl _), fun a ha e =>
    Nat.lt_irrefl _ (Nat.lt_trans (Nat.lt_of_lt_of_le hlt (rank_mono h ha)) (rank_own h e))⟩

end rank

end PymocaVerif.ObjGraph
