import PymocaVerif.Model.Delay
/-!
# The delay translation as a function of the counter alone

`tr` threads a state, but what it produces depends on the state only through the counter: the
translated expression is `trE lp e k`, and the arguments it appends are the images under `argOf lp`
of the delay nodes of `e`, each taken with the counter value at which the walk enters it
(`located e k`).  Every fact about the recorded arguments is a fact about `located`.
-/
namespace PymocaVerif.Delay
open PymocaVerif.Classify (Cat derName delayName)

/-- A source delay node: identity, delayed expression, duration. -/
abbrev DNode := Nat × Expr × Expr

/-- The `delay` nodes of a source expression, in post-order (operands before the node). -/
def delayNodes : Expr → List DNode
  | .lit _ => []
  | .time => []
  | .ref _ => []
  | .idx _ i => delayNodes i
  | .der _ => []
  | .derAt _ i => delayNodes i
  | .un _ e => delayNodes e
  | .ite c t e => delayNodes c ++ delayNodes t ++ delayNodes e
  | .bin _ a b => delayNodes a ++ delayNodes b
  | .delay id a d => delayNodes a ++ delayNodes d ++ [(id, a, d)]
  | .dsym _ => []
  | .dsymAt _ i => delayNodes i

def pairNodes (body : List (Expr × Expr)) : List DNode :=
  body.flatMap (fun p => delayNodes p.1 ++ delayNodes p.2)

def eqNodes : Equation → List DNode
  | .eq l r => delayNodes l ++ delayNodes r
  | .forEq _ _ body => pairNodes body

/-- All delay nodes in the order of the generator's walk: initial equations first. -/
def allNodes (ieqs eqs : List Equation) : List DNode :=
  ieqs.flatMap eqNodes ++ eqs.flatMap eqNodes

abbrev DNode.expr (nd : DNode) : Expr := nd.2.1

abbrev DNode.dur (nd : DNode) : Expr := nd.2.2

/-- The number of `delay` calls in `e`: by how much translating `e` advances the counter. -/
def ndelays : Expr → Nat
  | .lit _ => 0
  | .time => 0
  | .ref _ => 0
  | .idx _ i => ndelays i
  | .der _ => 0
  | .derAt _ i => ndelays i
  | .un _ e => ndelays e
  | .ite c t e => ndelays c + ndelays t + ndelays e
  | .bin _ a b => ndelays a + ndelays b
  | .delay _ a d => ndelays a + ndelays d + 1
  | .dsym _ => 0
  | .dsymAt _ i => ndelays i

/-- The translated expression, the counter being `k` when the walk enters `e`. -/
def trE (lp : Option (String × Nat)) : Expr → Nat → Expr
  | .lit q, _ => .lit q
  | .time, _ => .time
  | .ref n, _ => .ref n
  | .idx n i, k => .idx n (trE lp i k)
  | .der n, _ => .der n
  | .derAt n i, k => .derAt n (trE lp i k)
  | .un f e, k => .un f (trE lp e k)
  | .ite c t e, k => .ite (trE lp c k) (trE lp t (k + ndelays c)) (trE lp e (k + ndelays c + ndelays t))
  | .bin o a b, k => .bin o (trE lp a k) (trE lp b (k + ndelays a))
  | .delay _ a d, k => newSym lp (k + ndelays a + ndelays d) (trE lp a k)
  | .dsym j, _ => .dsym j
  | .dsymAt j i, k => .dsymAt j (trE lp i k)

/-- The delay nodes of `e`, each with the value of the counter when the walk enters it. -/
def located : Expr → Nat → List (Nat × DNode)
  | .lit _, _ => []
  | .time, _ => []
  | .ref _, _ => []
  | .idx _ i, k => located i k
  | .der _, _ => []
  | .derAt _ i, k => located i k
  | .un _ e, k => located e k
  | .ite c t e, k => located c k ++ located t (k + ndelays c) ++ located e (k + ndelays c + ndelays t)
  | .bin _ a b, k => located a k ++ located b (k + ndelays a)
  | .delay id a d, k => located a k ++ located d (k + ndelays a) ++ [(k, id, a, d)]
  | .dsym _, _ => []
  | .dsymAt _ i, k => located i k

/-- The number a node entered at counter value `p.1` gets: its operands are translated first. -/
def number (p : Nat × DNode) : Nat := p.1 + ndelays p.2.expr + ndelays p.2.dur

def argOf (lp : Option (String × Nat)) (p : Nat × DNode) : DArg :=
  newArg lp (number p) p.2.1 (trE lp p.2.expr p.1) (trE lp p.2.dur (p.1 + ndelays p.2.expr))

theorem newArg_some (v : String) (n k id : Nat) (a d : Expr) :
    newArg (some (v, n)) k id a d =
      ⟨k, id, if mentionsIndexed v a then (List.range n).map (fun j => substVar v (j + 1) a) else [a], d,
        mentionsIndexed v a, some v, a⟩ := by
  cases h : mentionsIndexed v a <;> simp [newArg, h]

@[simp] theorem newArg_k (lp : Option (String × Nat)) (k id : Nat) (a d : Expr) : (newArg lp k id a d).k = k := by
  rcases lp with _ | ⟨v, n⟩
  · rfl
  · rw [newArg_some]

@[simp] theorem newArg_id (lp : Option (String × Nat)) (k id : Nat) (a d : Expr) :
    (newArg lp k id a d).id = id := by
  rcases lp with _ | ⟨v, n⟩
  · rfl
  · rw [newArg_some]

@[simp] theorem newArg_dur (lp : Option (String × Nat)) (k id : Nat) (a d : Expr) :
    (newArg lp k id a d).dur = d := by
  rcases lp with _ | ⟨v, n⟩
  · rfl
  · rw [newArg_some]

@[simp] theorem newArg_lv (lp : Option (String × Nat)) (k id : Nat) (a d : Expr) :
    (newArg lp k id a d).lv = lp.map (·.1) := by
  rcases lp with _ | ⟨v, n⟩
  · rfl
  · rw [newArg_some]
    rfl

theorem located_nodes (e : Expr) (k : Nat) : (located e k).map (·.2) = delayNodes e := by
  induction e generalizing k with
  | lit | time | ref | der | dsym => rfl
  | idx _ _ ih | derAt _ _ ih | un _ _ ih | dsymAt _ _ ih => exact ih k
  | ite c t e ihc iht ihe => simp only [located, delayNodes, List.map_append, ihc, iht, ihe]
  | bin o a b iha ihb => simp only [located, delayNodes, List.map_append, iha, ihb]
  | delay id a d iha ihd => simp only [located, delayNodes, List.map_append, iha, ihd, List.map_cons, List.map_nil]

theorem located_numbers (e : Expr) (k : Nat) : (located e k).map number = List.range' k (ndelays e) := by
  induction e generalizing k with
  | lit | time | ref | der | dsym => rfl
  | idx _ _ ih | derAt _ _ ih | un _ _ ih | dsymAt _ _ ih => exact ih k
  | ite c t e ihc iht ihe =>
    rw [located, List.map_append, List.map_append, ihc, iht, ihe, List.range'_append_1, Nat.add_assoc,
      List.range'_append_1, ndelays]
  | bin o a b iha ihb => rw [located, List.map_append, iha, ihb, List.range'_append_1, ndelays]
  | delay id a d iha ihd =>
    rw [located, List.map_append, List.map_append, iha, ihd, List.range'_append_1, ndelays, List.range'_1_concat]
    simp only [List.map_cons, List.map_nil, number, Nat.add_assoc]

/-- Both sides count the located nodes. -/
theorem length_delayNodes (e : Expr) : (delayNodes e).length = ndelays e := by
  rw [← located_nodes e 0, List.length_map, ← List.length_map (f := number), located_numbers, List.length_range']

theorem tr_eq (lp : Option (String × Nat)) (e : Expr) (s : St) :
    tr lp e s = (trE lp e s.next, ⟨s.next + ndelays e, s.args ++ (located e s.next).map (argOf lp), s.ok⟩) := by
  induction e generalizing s with
  | lit | time | ref | der | dsym => simp only [tr, trE, located, ndelays, Nat.add_zero, List.map_nil, List.append_nil]
  | idx _ _ ih | derAt _ _ ih | un _ _ ih | dsymAt _ _ ih => simp only [tr, ih, trE, located, ndelays]
  | ite c t e ihc iht ihe =>
    simp only [tr, ihc, iht, ihe, trE, located, ndelays, List.map_append, List.append_assoc, Nat.add_assoc]
  | bin o a b iha ihb =>
    simp only [tr, iha, ihb, trE, located, ndelays, List.map_append, List.append_assoc, Nat.add_assoc]
  | delay id a d iha ihd =>
    simp only [tr, iha, ihd, trE, located, ndelays, argOf, number, List.map_append, List.append_assoc, Nat.add_assoc,
      List.map_cons, List.map_nil]

theorem tr_id (lp : Option (String × Nat)) : ∀ (e : Expr) (s : St), delayNodes e = [] → tr lp e s = (e, s)
  | e, s, h => by
    induction e generalizing s with
    | lit | time | ref | der | dsym => rfl
    | idx _ _ ih | derAt _ _ ih | un _ _ ih | dsymAt _ _ ih => simp only [tr, ih s h]
    | ite c t e ihc iht ihe =>
      simp only [delayNodes, List.append_eq_nil_iff] at h
      simp only [tr, ihc _ h.1.1, iht _ h.1.2, ihe _ h.2]
    | bin o a b iha ihb =>
      simp only [delayNodes, List.append_eq_nil_iff] at h
      simp only [tr, iha _ h.1, ihb _ h.2]
    | delay => simp [delayNodes] at h

/-- An expression with the for-loop it stands in. -/
abbrev CExpr := Option (String × Nat) × Expr

/-- The expressions of a loop body in the order of the walk: left then right. -/
def pairExprs (lp : Option (String × Nat)) (body : List (Expr × Expr)) : List CExpr :=
  body.flatMap fun p => [(lp, p.1), (lp, p.2)]

theorem pairExprs_cons (lp : Option (String × Nat)) (p : Expr × Expr) (body : List (Expr × Expr)) :
    pairExprs lp (p :: body) = (lp, p.1) :: (lp, p.2) :: pairExprs lp body := rfl

def eqExprs : Equation → List CExpr
  | .eq l r => [(none, l), (none, r)]
  | .forEq v n body => pairExprs (some (v, n)) body

/-- The generator's walk: initial equations, then equations. -/
def modelExprs (ieqs eqs : List Equation) : List CExpr := ieqs.flatMap eqExprs ++ eqs.flatMap eqExprs

def ndelaysAll (es : List CExpr) : Nat := (es.map fun x => ndelays x.2).sum

/-- A located node with the for-loop it stands in. -/
abbrev CNode := Option (String × Nat) × Nat × DNode

def locatedAll : List CExpr → Nat → List CNode
  | [], _ => []
  | (lp, e) :: es, k => (located e k).map (lp, ·) ++ locatedAll es (k + ndelays e)

def argOfC (x : CNode) : DArg := argOf x.1 x.2

theorem ndelaysAll_append (es₁ es₂ : List CExpr) : ndelaysAll (es₁ ++ es₂) = ndelaysAll es₁ + ndelaysAll es₂ := by
  simp [ndelaysAll]

theorem locatedAll_append (es₁ es₂ : List CExpr) (k : Nat) :
    locatedAll (es₁ ++ es₂) k = locatedAll es₁ k ++ locatedAll es₂ (k + ndelaysAll es₁) := by
  induction es₁ generalizing k with
  | nil => simp [locatedAll, ndelaysAll]
  | cons x es ih => simp [locatedAll, ndelaysAll, ih, Nat.add_assoc]

theorem locatedAll_numbers (es : List CExpr) (k : Nat) :
    (locatedAll es k).map (fun x => number x.2) = List.range' k (ndelaysAll es) := by
  induction es generalizing k with
  | nil => rfl
  | cons x es ih =>
    simp [locatedAll, ndelaysAll, Function.comp_def, located_numbers, ih, List.range'_append_1]

/-- The delay nodes of a sequence of expressions, each with the for-loop it stands in. -/
def ctxNodes (es : List CExpr) : List (Option (String × Nat) × DNode) :=
  es.flatMap fun x => (delayNodes x.2).map fun nd => (x.1, nd)

theorem locatedAll_nodes (es : List CExpr) (k : Nat) :
    (locatedAll es k).map (fun x => (x.1, x.2.2)) = ctxNodes es := by
  induction es generalizing k with
  | nil => rfl
  | cons x es ih =>
    rw [ctxNodes, List.flatMap_cons, ← ctxNodes, ← ih (k + ndelays x.2), ← located_nodes x.2 k]
    simp [locatedAll, Function.comp_def]

theorem mem_ctxNodes_of_locatedAll {es : List CExpr} {k : Nat} {x : CNode} (h : x ∈ locatedAll es k) :
    (x.1, x.2.2) ∈ ctxNodes es :=
  locatedAll_nodes es k ▸ List.mem_map_of_mem (f := fun x => (x.1, x.2.2)) h

theorem ctxNodes_pairExprs (lp : Option (String × Nat)) (body : List (Expr × Expr)) :
    ctxNodes (pairExprs lp body) = (pairNodes body).map fun nd => (lp, nd) := by
  simp [ctxNodes, pairExprs, pairNodes, List.flatMap_assoc, List.map_flatMap]

def eqCtx : Equation → Option (String × Nat)
  | .eq _ _ => none
  | .forEq v n _ => some (v, n)

theorem ctxNodes_eqExprs (q : Equation) : ctxNodes (eqExprs q) = (eqNodes q).map fun nd => (eqCtx q, nd) := by
  cases q with
  | eq l r => simp [ctxNodes, eqExprs, eqNodes, eqCtx]
  | forEq v n body => exact ctxNodes_pairExprs _ body

theorem length_ctxNodes (es : List CExpr) : (ctxNodes es).length = ndelaysAll es := by
  simp [ctxNodes, ndelaysAll, List.length_flatMap, length_delayNodes]

theorem argOfC_numbers (es : List CExpr) (k : Nat) :
    ((locatedAll es k).map argOfC).map (·.k) = List.range' k (ndelaysAll es) := by
  rw [List.map_map]
  exact (List.map_congr_left fun x _ => newArg_k ..).trans (locatedAll_numbers es k)

theorem argOfC_ids (es : List CExpr) (k : Nat) :
    ((locatedAll es k).map argOfC).map (·.id) = ((ctxNodes es).map (·.2)).map (·.1) := by
  rw [← locatedAll_nodes es k, List.map_map, List.map_map, List.map_map]
  exact List.map_congr_left fun x _ => newArg_id ..

theorem trPairs_eq (lp : Option (String × Nat)) (body : List (Expr × Expr)) (s : St) :
    (trPairs lp body s).2 =
      ⟨s.next + ndelaysAll (pairExprs lp body),
        s.args ++ (locatedAll (pairExprs lp body) s.next).map argOfC, s.ok⟩ := by
  induction body generalizing s with
  | nil => simp [trPairs, pairExprs, locatedAll, ndelaysAll]
  | cons p body ih =>
    simp [trPairs, tr_eq, ih, pairExprs, locatedAll, ndelaysAll, argOfC, Function.comp_def, Nat.add_assoc]

/-- The arguments appended by the translation of a loop body. -/
def pairArgs (lp : Option (String × Nat)) (body : List (Expr × Expr)) (s : St) : List DArg :=
  (trPairs lp body s).2.args.drop s.args.length

theorem pairArgs_eq (lp : Option (String × Nat)) (body : List (Expr × Expr)) (s : St) :
    pairArgs lp body s = (locatedAll (pairExprs lp body) s.next).map argOfC := by
  rw [pairArgs, trPairs_eq, List.drop_left]

theorem trEq_state (q : Equation) (s : St) :
    (trEq q s).2.next = s.next + ndelaysAll (eqExprs q) ∧
    (trEq q s).2.args = s.args ++ (locatedAll (eqExprs q) s.next).map argOfC := by
  cases q with
  | eq l r => simp [trEq, tr_eq, eqExprs, locatedAll, ndelaysAll, argOfC, Function.comp_def, Nat.add_assoc]
  | forEq v n body => simp [trEq, trPairs_eq, eqExprs]

theorem trEqs_state (qs : List Equation) (s : St) :
    (trEqs qs s).2.next = s.next + ndelaysAll (qs.flatMap eqExprs) ∧
    (trEqs qs s).2.args = s.args ++ (locatedAll (qs.flatMap eqExprs) s.next).map argOfC := by
  induction qs generalizing s with
  | nil => simp [trEqs, locatedAll, ndelaysAll]
  | cons q qs ih =>
    simp [trEqs, ih, trEq_state, locatedAll_append, ndelaysAll_append, Nat.add_assoc]

theorem translate_args (ieqs eqs : List Equation) :
    (translate ieqs eqs).args = (locatedAll (modelExprs ieqs eqs) 0).map argOfC := by
  simp [translate, trEqs_state, modelExprs, locatedAll_append]

/-- A list built per equation from the equation's nodes and its for-loop is, over the whole model, the
    image of the walk's nodes (`allNodes`, `allNodesL` are such lists). -/
theorem map_ctxNodes_modelExprs {β : Type} (f : Option (String × Nat) × DNode → β) (g : Equation → List β)
    (h : ∀ q, g q = (eqNodes q).map fun nd => f (eqCtx q, nd)) (ieqs eqs : List Equation) :
    ieqs.flatMap g ++ eqs.flatMap g = (ctxNodes (modelExprs ieqs eqs)).map f := by
  have h' : g = fun q => (ctxNodes (eqExprs q)).map f := by
    funext q
    rw [h, ctxNodes_eqExprs, List.map_map]
    rfl
  simp [modelExprs, ctxNodes, List.flatMap_assoc, List.map_flatMap, h']

theorem allNodes_eq (ieqs eqs : List Equation) :
    allNodes ieqs eqs = (ctxNodes (modelExprs ieqs eqs)).map (·.2) :=
  map_ctxNodes_modelExprs (·.2) eqNodes (fun _ => (List.map_id _).symm) ieqs eqs

end PymocaVerif.Delay
