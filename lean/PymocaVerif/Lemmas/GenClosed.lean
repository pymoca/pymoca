import PymocaVerif.Lemmas.GenExpr
/-!
# Lemmas for C11: loop-index closedness of generated terms, the substitution lemma, monotonicity

A term of a function body refers to loop indices only under the `map` / `mapAt` node that binds them
and never subscripts a symbol (function variables are scalars): `idxClosed B t`.  Such terms
evaluate alike in environments with the same symbol values (`evalC_closed_congr`), which is what makes
`ca.substitute` under a loop binder sound (`evalC_subst`).
-/
namespace PymocaVerif.Gen
open PymocaVerif.ExprSem

mutual
def idxClosed (B : List String) : CTerm K → Bool
  | .const _ => true
  | .ref _ subs => subs.isEmpty
  | .idx i => B.contains i
  | .op1 _ a => idxClosed B a
  | .op2 _ a b => idxClosed B a && idxClosed B b
  | .ifElse c t f => idxClosed B c && idxClosed B t && idxClosed B f
  | .vcat ts => idxCloseds B ts
  | .map _ i _ _ body => idxClosed (i :: B) body
  | .mapAt _ i _ body => idxClosed (i :: B) body
  | .call _ _ args => idxCloseds B args
def idxCloseds (B : List String) : CTerms K → Bool
  | .nil => true
  | .cons t ts => idxClosed B t && idxCloseds B ts
end

theorem idxCloseds_ofList (B : List String) (ts : List (CTerm K)) :
    idxCloseds B (CTerms.ofList ts) = ts.all (idxClosed B) := by
  induction ts with
  | nil => rfl
  | cons t ts ih => simp only [CTerms.ofList, idxCloseds, List.all_cons, ih]

theorem band_intro {a b : Bool} (ha : a = true) (hb : b = true) : (a && b) = true := by
  rw [ha, hb]
  rfl

theorem contains_cons_mono {B B' : List String} (hB : ∀ x, B.contains x = true → B'.contains x = true)
    (i x : String) (hx : (i :: B).contains x = true) : (i :: B').contains x = true := by
  simp only [List.contains_cons, Bool.or_eq_true] at hx ⊢
  exact hx.imp id (hB x)

mutual
theorem idxClosed_weaken : ∀ (t : CTerm K) {B B' : List String}, (∀ x, B.contains x = true → B'.contains x = true) →
    idxClosed B t = true → idxClosed B' t = true
  | .const _ => fun _ _ => rfl
  | .ref _ subs => fun _ h => h
  | .idx i => fun hB h => hB i h
  | .op1 _ a => fun hB h => idxClosed_weaken a hB h
  | .op2 _ a b => fun hB h => by
    obtain ⟨ha, hb⟩ := Bool.and_eq_true_iff.mp h
    exact band_intro (idxClosed_weaken a hB ha) (idxClosed_weaken b hB hb)
  | .ifElse c t f => fun hB h => by
    obtain ⟨hct, hf⟩ := Bool.and_eq_true_iff.mp h
    obtain ⟨hc, ht⟩ := Bool.and_eq_true_iff.mp hct
    exact band_intro (band_intro (idxClosed_weaken c hB hc) (idxClosed_weaken t hB ht))
      (idxClosed_weaken f hB hf)
  | .vcat ts => fun hB h => idxCloseds_weaken ts _ _ hB h
  | .map _ i _ _ body => fun hB h => idxClosed_weaken body (contains_cons_mono hB i) h
  | .mapAt _ i _ body => fun hB h => idxClosed_weaken body (contains_cons_mono hB i) h
  | .call _ _ args => fun hB h => idxCloseds_weaken args _ _ hB h
theorem idxCloseds_weaken : ∀ (ts : CTerms K) (B B' : List String), (∀ x, B.contains x = true → B'.contains x = true) →
    idxCloseds B ts = true → idxCloseds B' ts = true
  | .nil => fun _ _ _ _ => rfl
  | .cons t ts => fun B B' hB h => by
    obtain ⟨ht, hts⟩ := Bool.and_eq_true_iff.mp h
    exact band_intro (idxClosed_weaken t hB ht) (idxCloseds_weaken ts B B' hB hts)
end

theorem idxClosed_of_nil {t : CTerm K} (B : List String) (h : idxClosed [] t = true) : idxClosed B t = true :=
  idxClosed_weaken t (B := []) (fun _ hx => nomatch hx) h

theorem agree_bind {ρ1 ρ2 : Env K} {B : List String} (hi : ∀ j, B.contains j = true → ρ1.idx j = ρ2.idx j)
    (i : String) (v : Int) (j : String) (hj : (i :: B).contains j = true) :
    (ρ1.bind i v).idx j = (ρ2.bind i v).idx j := by
  simp only [List.contains_cons, Bool.or_eq_true, beq_iff_eq] at hj
  simp only [Env.bind]
  split
  · rfl
  · rename_i hji
    exact hi j (hj.resolve_left hji)

mutual
theorem evalC_closed_congr (P : Prims K) : ∀ (t : CTerm K) (B : List String) (ρ1 ρ2 : Env K),
    idxClosed B t = true → ρ1.val = ρ2.val → (∀ i, B.contains i = true → ρ1.idx i = ρ2.idx i) →
    evalC P ρ1 t = evalC P ρ2 t
  | .const _ => fun _ _ _ _ _ _ => rfl
  | .ref n subs => fun _ ρ1 ρ2 h hv _ => by
    cases List.isEmpty_iff.mp h
    exact congrFun hv n
  | .idx i => fun B ρ1 ρ2 h _ hi => by simp only [evalC, hi i h]
  | .op1 f a => fun B ρ1 ρ2 h hv hi => by simp only [evalC, evalC_closed_congr P a B ρ1 ρ2 h hv hi]
  | .op2 f a b => fun B ρ1 ρ2 h hv hi => by
    obtain ⟨ha, hb⟩ := Bool.and_eq_true_iff.mp h
    simp only [evalC, evalC_closed_congr P a B ρ1 ρ2 ha hv hi, evalC_closed_congr P b B ρ1 ρ2 hb hv hi]
  | .ifElse c t f => fun B ρ1 ρ2 h hv hi => by
    obtain ⟨hct, hf⟩ := Bool.and_eq_true_iff.mp h
    obtain ⟨hc, ht⟩ := Bool.and_eq_true_iff.mp hct
    simp only [evalC, evalC_closed_congr P c B ρ1 ρ2 hc hv hi, evalC_closed_congr P t B ρ1 ρ2 ht hv hi,
      evalC_closed_congr P f B ρ1 ρ2 hf hv hi]
  | .vcat ts => fun B ρ1 ρ2 h hv hi => by simp only [evalC, evalCs_closed_congr P ts B ρ1 ρ2 h hv hi]
  | .map m i vals tr body => fun B ρ1 ρ2 h hv hi => by
    simp only [evalC, fun v => evalC_closed_congr P body (i :: B) (ρ1.bind i v) (ρ2.bind i v) h hv
      (agree_bind hi i v)]
  | .mapAt m i v body => fun B ρ1 ρ2 h hv hi =>
    evalC_closed_congr P body (i :: B) (ρ1.bind i v) (ρ2.bind i v) h hv (agree_bind hi i v)
  | .call inl fn args => fun B ρ1 ρ2 h hv hi => by
    simp only [evalC, evalCs_closed_congr P args B ρ1 ρ2 h hv hi]
theorem evalCs_closed_congr (P : Prims K) : ∀ (ts : CTerms K) (B : List String) (ρ1 ρ2 : Env K),
    idxCloseds B ts = true → ρ1.val = ρ2.val → (∀ i, B.contains i = true → ρ1.idx i = ρ2.idx i) →
    evalCs P ρ1 ts = evalCs P ρ2 ts
  | .nil => fun _ _ _ _ _ _ => rfl
  | .cons t ts => fun B ρ1 ρ2 h hv hi => by
    obtain ⟨ht, hts⟩ := Bool.and_eq_true_iff.mp h
    simp only [evalCs, evalC_closed_congr P t B ρ1 ρ2 ht hv hi, evalCs_closed_congr P ts B ρ1 ρ2 hts hv hi]
end

mutual
def mClosed (B : List String) : MExpr K → Bool
  | .num _ => true
  | .ref _ subs => subs.isEmpty
  | .idx i => B.contains i
  | .un _ a => mClosed B a
  | .bin _ a b => mClosed B a && mClosed B b
  | .ife bs => brClosed B bs
  | .call _ args => msClosed B args
  | .delay _ _ _ => false     -- no delay operators inside functions
def msClosed (B : List String) : MExprs K → Bool
  | .nil => true
  | .cons e es => mClosed B e && msClosed B es
def brClosed (B : List String) : MBranches K → Bool
  | .last e => mClosed B e
  | .cons c e rest => mClosed B c && mClosed B e && brClosed B rest
end

theorem foldFromLast_closed {B : List String} {cs es : List (CTerm K)} (hc : cs.all (idxClosed B) = true)
    (he : es.all (idxClosed B) = true) : idxClosed B (foldFromLast cs es) = true := by
  have hmem : ∀ x ∈ es.reverse, idxClosed B x = true :=
    fun x hx => List.all_eq_true.mp he x (List.mem_reverse.mp hx)
  unfold foldFromLast
  cases hr : es.reverse with
  | nil => rfl
  | cons last restRev =>
    rw [hr] at hmem
    -- closedness is an invariant of the fold
    refine List.foldlRecOn (motive := fun t => idxClosed B t = true) _ _ (hmem last List.mem_cons_self)
      (fun acc h p hp => ?_)
    have := List.of_mem_zip hp
    exact band_intro (band_intro (List.all_eq_true.mp hc p.1 (List.mem_reverse.mp this.1))
      (hmem p.2 (List.mem_cons_of_mem _ this.2))) h

theorem nestAll_closed {B : List String} {cs es : List (CTerm K)} (hc : cs.all (idxClosed B) = true)
    (he : es.all (idxClosed B) = true) : idxClosed B (nestAll cs es) = true := by
  induction cs generalizing es with
  | nil =>
    match es, he with
    | [], _ => rfl
    | [last], he => exact (Bool.and_eq_true_iff.mp he).1
    | _ :: _ :: _, _ => rfl
  | cons c cs ih =>
    cases es with
    | nil => rfl
    | cons e es =>
      obtain ⟨hc1, hc2⟩ := Bool.and_eq_true_iff.mp hc
      obtain ⟨he1, he2⟩ := Bool.and_eq_true_iff.mp he
      exact band_intro (band_intro hc1 he1) (ih hc2 he2)

theorem genUn_closed {P : Prims K} {o : Opts} {T : FTab K} {B : List String} {op : UnOp} {ta c : CTerm K}
    (ha : idxClosed B ta = true) (h : genUn P o T op ta = .ok c) : idxClosed B c = true := by
  cases op with
  | not => cases h; exact band_intro (band_intro ha rfl) rfl
  | elem e =>
    simp only [genUn] at h
    split at h
    · cases h; exact ha
    · obtain ⟨fn, _, rfl⟩ := userCall_ok h
      simp only [idxClosed, idxCloseds_ofList, List.all_cons, List.all_nil, ha, Bool.and_self]
  | _ => cases h; exact ha

theorem genBin_closed {o : Opts} {T : FTab K} {B : List String} {op : BinOp} {ta tb c : CTerm K}
    (ha : idxClosed B ta = true) (hb : idxClosed B tb = true) (h : genBin o T op ta tb = .ok c) :
    idxClosed B c = true := by
  rw [genBin_eq] at h
  cases hm : binMeth op with
  | some m => rw [hm] at h; cases h; exact band_intro ha hb
  | none =>
    rw [hm] at h
    obtain ⟨fn, _, rfl⟩ := userCall_ok h
    simp only [idxClosed, idxCloseds_ofList, List.all_cons, List.all_nil, ha, hb, Bool.and_self]

mutual
theorem gen_closed {P : Prims K} {o : Opts} {T : FTab K} {B : List String} : ∀ (e : MExpr K) {c : CTerm K},
    mClosed B e = true → gen P o T e = .ok c → idxClosed B c = true
  | .num q => fun _ h => by cases h; rfl
  | .ref n s => fun hm h => by cases h; exact hm
  | .idx i => fun hm h => by cases h; exact hm
  | .un op a => fun hm h => by
    obtain ⟨ta, hta, hc⟩ := bind_ok.mp h
    exact genUn_closed (gen_closed a hm hta) hc
  | .bin op a b => fun hm h => by
    obtain ⟨ha, hb⟩ := Bool.and_eq_true_iff.mp hm
    obtain ⟨ta, hta, h2⟩ := bind_ok.mp h
    obtain ⟨tb, htb, hc⟩ := bind_ok.mp h2
    exact genBin_closed (gen_closed a ha hta) (gen_closed b hb htb) hc
  | .ife bs => fun hm h => by
    obtain ⟨ce, hce, hc⟩ := bind_ok.mp h
    cases hc
    have := genBr_closed P o T B bs ce hm hce
    exact foldFromLast_closed this.1 this.2
  | .call f args => fun hm h => by
    obtain ⟨tas, htas, hc⟩ := bind_ok.mp h
    obtain ⟨fn, _, rfl⟩ := userCall_ok hc
    simp only [idxClosed, idxCloseds_ofList, gens_closed P o T B args tas hm htas]
  | .delay _ _ _ => fun hm _ => nomatch hm
theorem gens_closed (P : Prims K) (o : Opts) (T : FTab K) (B : List String) : ∀ (es : MExprs K)
    (cs : List (CTerm K)), msClosed B es = true → gens P o T es = .ok cs → cs.all (idxClosed B) = true
  | .nil => fun cs _ h => by cases h; rfl
  | .cons e es => fun cs hm h => by
    obtain ⟨he, hes⟩ := Bool.and_eq_true_iff.mp hm
    obtain ⟨t, ts, ht, hts, rfl⟩ := bind2_ok.mp h
    exact band_intro (gen_closed e he ht) (gens_closed P o T B es ts hes hts)
theorem genBr_closed (P : Prims K) (o : Opts) (T : FTab K) (B : List String) : ∀ (bs : MBranches K)
    (ce : List (CTerm K) × List (CTerm K)), brClosed B bs = true → genBr P o T bs = .ok ce →
    ce.1.all (idxClosed B) = true ∧ ce.2.all (idxClosed B) = true
  | .last e => fun ce hm h => by
    obtain ⟨t, ht, hc⟩ := bind_ok.mp h
    cases hc
    exact ⟨rfl, band_intro (gen_closed e hm ht) rfl⟩
  | .cons c e rest => fun ce hm h => by
    obtain ⟨hce, hrest⟩ := Bool.and_eq_true_iff.mp hm
    obtain ⟨hc, he⟩ := Bool.and_eq_true_iff.mp hce
    obtain ⟨tc, htc, h2⟩ := bind_ok.mp h
    obtain ⟨te, ce', hte, hce', rfl⟩ := bind2_ok.mp h2
    have ih := genBr_closed P o T B rest ce' hrest hce'
    exact ⟨band_intro (gen_closed c hc htc) ih.1,
      band_intro (gen_closed e he hte) ih.2⟩
end

theorem genL_closed {P : Prims K} {o : Opts} {T : FTab K} {B : List String} {es : List (MExpr K)}
    {ts : List (CTerm K)} (hm : es.all (mClosed B) = true) (h : genL P o T es = .ok ts) :
    ts.all (idxClosed B) = true := by
  induction es generalizing ts with
  | nil => cases h; rfl
  | cons e es ih =>
    obtain ⟨he, hes⟩ := Bool.and_eq_true_iff.mp hm
    obtain ⟨t, ts', ht, hts, rfl⟩ := bind2_ok.mp h
    exact band_intro (gen_closed e he ht) (ih hes hts)

/-- The environment in which the symbols of `σ` stand for the values of their terms. -/
def over (P : Prims K) (ρ : Env K) (σ : SymVals K) : Env K :=
  { ρ with val := fun x => match SymVals.get σ x with
      | some s => evalC P ρ s
      | none => ρ.val x }

/-- All replacement terms are closed (no free loop index, no subscripts). -/
def ValsClosed (σ : SymVals K) : Prop := ∀ x s, SymVals.get σ x = some s → idxClosed [] s = true

theorem over_val_some {P : Prims K} {ρ : Env K} {σ : SymVals K} {x : String} {s : CTerm K}
    (h : SymVals.get σ x = some s) : (over P ρ σ).val x = evalC P ρ s := by
  simp only [over, h]

theorem over_val_none {P : Prims K} {ρ : Env K} {σ : SymVals K} {x : String}
    (h : SymVals.get σ x = none) : (over P ρ σ).val x = ρ.val x := by
  simp only [over, h]

theorem over_bind (P : Prims K) (ρ : Env K) (σ : SymVals K) (hσ : ValsClosed σ) (i : String) (v : Int) :
    over P (ρ.bind i v) σ = (over P ρ σ).bind i v := by
  simp only [over, Env.bind]
  congr 1
  funext x
  cases hg : SymVals.get σ x with
  | none => rfl
  | some s => exact evalC_closed_congr P s [] _ _ (hσ x s hg) rfl (fun _ hj => nomatch hj)

mutual
theorem evalC_subst (P : Prims K) (σ : SymVals K) (hσ : ValsClosed σ) : ∀ (t : CTerm K) (ρ : Env K),
    (∀ x s, SymVals.get σ x = some s → ρ.shape x = none) →
    evalC P ρ (subst σ t) = evalC P (over P ρ σ) t
  | .const q => fun ρ _ => rfl
  | .ref n [] => fun ρ _ => by
    simp only [subst]
    cases hg : SymVals.get σ n with
    | none => exact (over_val_none hg).symm
    | some s => exact (over_val_some hg).symm
  | .ref n (s :: ss) => fun ρ hsh => by
    simp only [subst, evalC, Env.lookup]
    cases hg : SymVals.get σ n with
    | none =>
      rw [over_val_none hg]
      rfl
    | some t =>
      have e : (over P ρ σ).shape n = none := hsh n t hg
      rw [hsh n t hg, e]
      rfl
  | .idx i => fun ρ _ => rfl
  | .op1 f a => fun ρ hsh => by simp only [subst, evalC, evalC_subst P σ hσ a ρ hsh]
  | .op2 f a b => fun ρ hsh => by simp only [subst, evalC, evalC_subst P σ hσ a ρ hsh, evalC_subst P σ hσ b ρ hsh]
  | .ifElse c t f => fun ρ hsh => by
    simp only [subst, evalC, evalC_subst P σ hσ c ρ hsh, evalC_subst P σ hσ t ρ hsh, evalC_subst P σ hσ f ρ hsh]
  | .vcat ts => fun ρ hsh => by simp only [subst, evalC, evalCs_substs P σ hσ ts ρ hsh]
  | .map m i vals tr body => fun ρ hsh => by
    simp only [subst, evalC, fun v => evalC_subst P σ hσ body (ρ.bind i v) hsh, over_bind P ρ σ hσ i]
  | .mapAt m i v body => fun ρ hsh => by
    simp only [subst, evalC, evalC_subst P σ hσ body (ρ.bind i v) hsh, over_bind P ρ σ hσ i v]
  | .call inl fn args => fun ρ hsh => by simp only [subst, evalC, evalCs_substs P σ hσ args ρ hsh]
theorem evalCs_substs (P : Prims K) (σ : SymVals K) (hσ : ValsClosed σ) : ∀ (ts : CTerms K) (ρ : Env K),
    (∀ x s, SymVals.get σ x = some s → ρ.shape x = none) →
    evalCs P ρ (substs σ ts) = evalCs P (over P ρ σ) ts
  | .nil => fun ρ _ => rfl
  | .cons t ts => fun ρ hsh => by
    simp only [substs, evalCs, evalC_subst P σ hσ t ρ hsh, evalCs_substs P σ hσ ts ρ hsh]
end

mutual
theorem subst_closed (σ : SymVals K) (hσ : ValsClosed σ) : ∀ (t : CTerm K) {B : List String},
    idxClosed B t = true → idxClosed B (subst σ t) = true
  | .const q => fun _ => rfl
  | .ref n [] => fun _ => by
    simp only [subst]
    cases hg : SymVals.get σ n with
    | none => rfl
    | some s => exact idxClosed_of_nil _ (hσ n s hg)
  | .ref n (s :: ss) => fun h => nomatch h
  | .idx i => fun h => h
  | .op1 f a => fun h => subst_closed σ hσ a h
  | .op2 f a b => fun h => by
    obtain ⟨ha, hb⟩ := Bool.and_eq_true_iff.mp h
    exact band_intro (subst_closed σ hσ a ha) (subst_closed σ hσ b hb)
  | .ifElse c t f => fun h => by
    obtain ⟨hct, hf⟩ := Bool.and_eq_true_iff.mp h
    obtain ⟨hc, ht⟩ := Bool.and_eq_true_iff.mp hct
    exact band_intro (band_intro (subst_closed σ hσ c hc) (subst_closed σ hσ t ht))
      (subst_closed σ hσ f hf)
  | .vcat ts => fun h => substs_closed σ hσ ts _ h
  | .map m i vals tr body => fun h => subst_closed σ hσ body h
  | .mapAt m i v body => fun h => subst_closed σ hσ body h
  | .call inl fn args => fun h => substs_closed σ hσ args _ h
theorem substs_closed (σ : SymVals K) (hσ : ValsClosed σ) : ∀ (ts : CTerms K) (B : List String),
    idxCloseds B ts = true → idxCloseds B (substs σ ts) = true
  | .nil => fun _ _ => rfl
  | .cons t ts => fun B h => by
    obtain ⟨ht, hts⟩ := Bool.and_eq_true_iff.mp h
    exact band_intro (subst_closed σ hσ t ht) (substs_closed σ hσ ts B hts)
end

/-- `ρ'` knows every symbol `ρ` knows, with the same value. -/
def Env.le (ρ ρ' : Env K) : Prop :=
  (∀ x v, ρ.val x = some v → ρ'.val x = some v) ∧ ρ.shape = ρ'.shape ∧ ρ.idx = ρ'.idx

theorem Env.le_bind {ρ ρ' : Env K} (h : Env.le ρ ρ') (i : String) (v : Int) :
    Env.le (ρ.bind i v) (ρ'.bind i v) := by
  obtain ⟨hval, hshape, hidx⟩ := h
  exact ⟨hval, hshape, by simp only [Env.bind, hidx]⟩

theorem lookup_mono {ρ ρ' : Env K} (h : Env.le ρ ρ') (n : String) (subs : List Sub) :
    Refines (ρ'.lookup n subs) (ρ.lookup n subs) := by
  obtain ⟨hval, hshape, hidx⟩ := h
  cases subs with
  | nil => exact hval n
  | cons s ss =>
    simp only [Env.lookup, ← hshape, ← hidx]
    exact Refines.bind_same fun _ => Refines.bind_same fun _ => Refines.bind (hval n) fun _ => Refines.refl

mutual
theorem evalC_mono (P : Prims K) : ∀ (t : CTerm K) {ρ ρ' : Env K}, Env.le ρ ρ' →
    Refines (evalC P ρ' t) (evalC P ρ t)
  | .const q => fun _ => Refines.refl
  | .ref n s => fun h => lookup_mono h n s
  | .idx i => fun h => by simp only [evalC, h.2.2]; exact Refines.refl
  | .op1 f a => fun h => Refines.bind (evalC_mono P a h) (fun _ => Refines.refl)
  | .op2 f a b => fun h =>
    Refines.bind (evalC_mono P a h) (fun _ => Refines.bind (evalC_mono P b h) (fun _ => Refines.refl))
  | .ifElse c t f => fun h =>
    Refines.bind (evalC_mono P c h)
      (fun _ => Refines.bind_same (fun _ => Refines.ite (evalC_mono P t h) (evalC_mono P f h)))
  | .vcat ts => fun h => Refines.bind (evalCs_mono P ts _ _ h) (fun _ => Refines.refl)
  | .map m i vals tr body => fun h =>
    Refines.bind (rowsOver_refines (fun v => evalC_mono P body (Env.le_bind h i v)) vals) (fun _ => Refines.refl)
  | .mapAt m i v body => fun h => evalC_mono P body (Env.le_bind h i v)
  | .call inl fn args => fun h => Refines.bind (evalCs_mono P args _ _ h) (fun _ => Refines.refl)
theorem evalCs_mono (P : Prims K) : ∀ (ts : CTerms K) (ρ ρ' : Env K), Env.le ρ ρ' →
    Refines (evalCs P ρ' ts) (evalCs P ρ ts)
  | .nil => fun _ _ _ => Refines.refl
  | .cons t ts => fun ρ ρ' h =>
    Refines.bind (evalC_mono P t h) (fun _ => Refines.bind (evalCs_mono P ts ρ ρ' h) (fun _ => Refines.refl))
end

end PymocaVerif.Gen
