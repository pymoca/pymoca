import PymocaVerif.Model.Simplify
import PymocaVerif.Lemmas.AliasRelWF
/-!
# Simplify: solutions, the substitution lemma, what is assumed of the engine
Core Lean only; the field is `Lean.Grind.Field`.  What `AliasRelation.add` stores is taken from the lemmas on the
alias relation itself (`AliasRelWF`).
-/
set_option linter.unusedSectionVars false
namespace PymocaVerif.Simplify
open PymocaVerif.AliasRel Lean.Grind

variable {K : Type} [Field K] [DecidableEq K]

abbrev Env (K : Type) := String → K

/-- environment in which the symbols bound by `l` take the value of their expressions -/
def upd (I : Interp K) (σ : Env K) (l : List (String × Ex K)) : Env K :=
  fun n => match l.lookup n with
    | some t => t.eval I σ
    | none => σ n

theorem eval_un_congr {I : Interp K} {σ σ' : Env K} (o : UOp) {a a' : Ex K} (h : a.eval I σ = a'.eval I σ') :
    (Ex.un o a).eval I σ = (Ex.un o a').eval I σ' := by
  cases o <;> simp only [Ex.eval, h]

theorem eval_bin_congr {I : Interp K} {σ σ' : Env K} (o : BOp) {a a' b b' : Ex K} (ha : a.eval I σ = a'.eval I σ')
    (hb : b.eval I σ = b'.eval I σ') : (Ex.bin o a b).eval I σ = (Ex.bin o a' b').eval I σ' := by
  cases o <;> simp only [Ex.eval, ha, hb]

theorem eval_subst (I : Interp K) (σ : Env K) (l : List (String × Ex K)) (e : Ex K) :
    (e.subst l).eval I σ = e.eval I (upd I σ l) := by
  induction e with
  | sym n => cases h : l.lookup n <;> simp [Ex.subst, Ex.eval, upd, h]
  | const c => rfl
  | un o a ih => exact eval_un_congr o ih
  | bin o a b iha ihb => exact eval_bin_congr o iha ihb

theorem eval_congr {I : Interp K} {ρ ρ' : Env K} (e : Ex K) (h : ∀ n ∈ e.syms, ρ n = ρ' n) : e.eval I ρ = e.eval I ρ' := by
  induction e with
  | sym n => exact h n (List.mem_singleton.2 rfl)
  | const c => rfl
  | un o a ih => exact eval_un_congr o (ih h)
  | bin o a b iha ihb =>
    exact eval_bin_congr o (iha fun n hn => h n (List.mem_append_left _ hn)) (ihb fun n hn => h n (List.mem_append_right _ hn))

def HoldsL (I : Interp K) (σ : Env K) (l : List (String × Ex K)) : Prop :=
  ∀ p ∈ l, σ p.1 = p.2.eval I σ

theorem lookup_mem {α} {l : List (String × α)} {n : String} {t : α} (h : l.lookup n = some t) : (n, t) ∈ l := by
  obtain ⟨l₁, l₂, rfl, _⟩ := List.lookup_eq_some_iff.1 h
  exact List.mem_append_right _ (List.mem_cons_self ..)

theorem upd_of_holds (I : Interp K) (σ : Env K) (l : List (String × Ex K)) (h : HoldsL I σ l) :
    upd I σ l = σ := by
  funext n
  unfold upd
  cases hl : l.lookup n with
  | none => rfl
  | some t => exact (h (n, t) (lookup_mem hl)).symm

theorem eval_subst_of_holds (I : Interp K) (σ : Env K) (l : List (String × Ex K)) (h : HoldsL I σ l) (e : Ex K) :
    (e.subst l).eval I σ = e.eval I σ := by
  rw [eval_subst, upd_of_holds I σ l h]

/-- all equations of a list hold in `σ` -/
def EqOk (I : Interp K) (σ : Env K) (es : List (Ex K)) : Prop := ∀ e ∈ es, e.eval I σ = 0

/-- parameters / constants are fixed at their values (`none` = no value, not constrained) -/
def ValOk (I : Interp K) (σ : Env K) (vs : List (Var K)) : Prop :=
  ∀ v ∈ vs, ∀ t, v.value = some t → σ v.name = t.eval I σ

/-- value of a signed name -/
def sval (σ : Env K) (a : SName) : K := if a.1 then - σ a.2 else σ a.2

/-- every fact stored in the alias relation holds: members of a stored set are equal (with their
    signs), and a name equals its recorded canonical variable with the recorded sign -/
def AliasOk (σ : Env K) (ar : AR) : Prop :=
  (∀ x A, ar.al x = some A → ∀ y ∈ A, sval σ y = sval σ x) ∧
  (∀ x c, ar.cmap x = some c → sval σ x = sval σ (c.2, c.1))

/-- `σ` solves the model: its equations hold, parameters and constants (including the recorded
    constant assignments) have their values, the recorded aliases hold -/
structure Sat (I : Interp K) (σ : Env K) (m : Model K) : Prop where
  eqs : EqOk I σ m.eqs
  params : ValOk I σ m.params
  consts : ValOk I σ m.consts
  alias : AliasOk σ m.ar

/-- the assumptions on what is observed of CasADi -/
structure EngineOk (I : Interp K) (E : Engine K) : Prop where
  norm_eval : ∀ σ e, (E.norm e).eval I σ = e.eval I σ
  norm_syms : ∀ e n, n ∈ (E.norm e).syms → n ∈ e.syms
  view_eval : ∀ i σ e, (E.view i e).eval I σ = e.eval I σ

theorem sub_eval {I : Interp K} {E : Engine K} (hE : EngineOk I E) {σ : Env K} {l : List (String × Ex K)}
    (h : HoldsL I σ l) (e : Ex K) : (E.sub l e).eval I σ = e.eval I σ := by
  unfold Engine.sub
  rw [hE.norm_eval, eval_subst_of_holds I σ l h]

theorem ite_some_cases {α} {c : Prop} [Decidable c] {a r : α} {o : Option α}
    (h : (if c then some a else o) = some r) : (c ∧ a = r) ∨ (¬ c ∧ o = some r) := by
  split at h
  · exact .inl ⟨‹c›, Option.some.inj h⟩
  · exact .inr ⟨‹¬ c›, h⟩

theorem add_eq_zero_iff {a b : K} : a + b = 0 ↔ a = -b := by grind
theorem add_eq_zero_iff' {a b : K} : a + b = 0 ↔ b = -a := by rw [AddCommMonoid.add_comm]; exact add_eq_zero_iff
theorem sub_eq_zero_iff' {a b : K} : a - b = 0 ↔ b = a := AddCommGroup.sub_eq_zero_iff.trans eq_comm

theorem eqok_cons {I : Interp K} {σ : Env K} {e : Ex K} {es : List (Ex K)} :
    EqOk I σ (e :: es) ↔ e.eval I σ = 0 ∧ EqOk I σ es := List.forall_mem_cons

theorem eqok_map {I : Interp K} {σ : Env K} {f : Ex K → Ex K} {es : List (Ex K)}
    (hf : ∀ e ∈ es, ((f e).eval I σ = 0 ↔ e.eval I σ = 0)) : EqOk I σ (es.map f) ↔ EqOk I σ es := by
  unfold EqOk
  rw [List.forall_mem_map]
  exact forall₂_congr hf

theorem eqok_sub {I : Interp K} {E : Engine K} (hE : EngineOk I E) {σ : Env K} {l : List (String × Ex K)}
    (h : HoldsL I σ l) {es : List (Ex K)} : EqOk I σ (es.map (E.sub l)) ↔ EqOk I σ es :=
  eqok_map fun e _ => by rw [sub_eval hE h]

theorem valok_map {I : Interp K} {σ : Env K} {f : Ex K → Ex K} (hf : ∀ e, (f e).eval I σ = e.eval I σ)
    {vs : List (Var K)} : ValOk I σ (vs.map (Var.mapValue f)) ↔ ValOk I σ vs := by
  unfold ValOk
  rw [List.forall_mem_map]
  refine forall₂_congr fun v _ => ?_
  cases hv : v.value with
  | none => simp [Var.mapValue, hv]
  | some t => simp [Var.mapValue, hv, hf]

theorem valok_filter {I : Interp K} {σ : Env K} {vs : List (Var K)} (p : Var K → Bool) (h : ValOk I σ vs) :
    ValOk I σ (vs.filter p) := fun v hv => h v (List.mem_filter.1 hv).1

theorem valok_append {I : Interp K} {σ : Env K} {vs ws : List (Var K)} :
    ValOk I σ (vs ++ ws) ↔ ValOk I σ vs ∧ ValOk I σ ws := List.forall_mem_append

theorem sat_iff {I : Interp K} {σ : Env K} {m : Model K} :
    Sat I σ m ↔ EqOk I σ m.eqs ∧ ValOk I σ m.params ∧ ValOk I σ m.consts ∧ AliasOk σ m.ar :=
  ⟨fun h => ⟨h.eqs, h.params, h.consts, h.alias⟩, fun h => ⟨h.1, h.2.1, h.2.2.1, h.2.2.2⟩⟩

theorem sat_substMeta {I : Interp K} {E : Engine K} (hE : EngineOk I E) {σ : Env K} {l : List (String × Ex K)}
    (hl : HoldsL I σ l) (m : Model K) : Sat I σ (substMeta E l m) ↔ Sat I σ m := by
  rw [sat_iff, sat_iff]
  exact and_congr_right' (and_congr (valok_map (sub_eval hE hl)) (and_congr_left' (valok_map (sub_eval hE hl))))

theorem sat_mapEqs {I : Interp K} {σ : Env K} {f : Ex K → Ex K} {m m' : Model K}
    (hf : ∀ e ∈ m.eqs, ((f e).eval I σ = 0 ↔ e.eval I σ = 0)) (he : m'.eqs = m.eqs.map f)
    (hp : m'.params = m.params) (hc : m'.consts = m.consts) (ha : m'.ar = m.ar) : Sat I σ m' ↔ Sat I σ m := by
  rw [sat_iff, sat_iff, he, hp, hc, ha, eqok_map hf]

theorem sval_tog (σ : Env K) (x : SName) : sval σ (tog x) = - sval σ x := by
  obtain ⟨s, n⟩ := x
  cases s
  · rfl
  · exact (AddCommGroup.neg_neg _).symm

theorem sval_of_tog {σ : Env K} {x : SName} {v : K} (h : sval σ (tog x) = v) : sval σ x = - v := by
  rw [← h, sval_tog, AddCommGroup.neg_neg]

theorem sval_flipIf (σ : Env K) (p : String × Bool) :
    sval σ ((flipIf true p).2, (flipIf true p).1) = - sval σ (p.2, p.1) := by
  simpa [flipIf, tog] using sval_tog σ (p.2, p.1)

theorem aliases_sval {σ : Env K} {s : AR} (h : AliasOk σ s) {x y : SName} (hy : y ∈ s.aliases x) :
    sval σ y = sval σ x := by
  cases hx : s.al x with
  | none => rw [aliases_of_none hx] at hy; rw [List.mem_singleton.1 hy]
  | some A => exact h.1 x A hx y (aliases_of_some hx ▸ hy)

theorem canonical_sval {σ : Env K} {s : AR} (h : AliasOk σ s) (x : SName) :
    sval σ x = sval σ ((s.canonicalSigned x).2, (s.canonicalSigned x).1) := by
  cases hx : s.cmap x with
  | none => rw [canonicalSigned_of_none hx]
  | some c => rw [canonicalSigned_of_some hx]; exact h.2 x c hx

theorem add_aliasOk {σ : Env K} {s s' : AR} {a b : SName} (h : AliasOk σ s) (hab : sval σ a = sval σ b)
    (hs : s.add a b = some s') : AliasOk σ s' := by
  by_cases hb : b ∈ s.aliases a
  · rw [AR.add, if_pos hb] at hs
    exact (ite_some_cases hs).elim (fun e => e.2 ▸ h) (nomatch ·.2)
  obtain rfl := eq_addRes_of_add hb hs
  -- the merged class has the value of `a`, the class of the negations its negative
  have hA : ∀ y, y ∈ s.aliases a ++ s.aliases b → sval σ y = sval σ a := by
    intro y hy
    rcases List.mem_append.1 hy with hy | hy
    · exact aliases_sval h hy
    · rw [aliases_sval h hy, hab]
  have hI : ∀ y, y ∈ s.aliases (tog a) ++ s.aliases (tog b) → sval σ y = - sval σ a := by
    intro y hy
    rcases List.mem_append.1 hy with hy | hy
    · rw [aliases_sval h hy, sval_tog]
    · rw [aliases_sval h hy, sval_tog, hab]
  constructor
  · intro x A hx y hy
    rcases ite_some_cases hx with ⟨hxA, rfl⟩ | ⟨_, hx⟩
    · rw [hA y hy, hA x hxA]
    · rcases ite_some_cases hx with ⟨hxA, rfl⟩ | ⟨_, hx⟩
      · rw [hI y hy, sval_of_tog (hA _ hxA)]
      · exact h.1 x A hx y hy
  · intro x c hx
    rcases ite_some_cases hx with ⟨hxA, rfl⟩ | ⟨_, hx⟩
    · rw [sval_flipIf, ← canonical_sval h a, sval_of_tog (hA _ hxA)]
    · rcases ite_some_cases hx with ⟨hxA, rfl⟩ | ⟨_, hx⟩
      · rw [hA x hxA, canonical_sval h a]
      · exact h.2 x c hx

theorem remove_aliasOk {σ : Env K} {s s' : AR} {a : SName} (h : AliasOk σ s) (hs : s.remove a = some s') :
    AliasOk σ s' := by
  revert hs
  fun_cases AR.remove s a <;> intro hs
  case case1 =>
    cases hs
    exact h
  case case2 =>
    cases hs
    -- entries are only deleted
    exact ⟨fun x A hx => h.1 x A (Option.ite_none_left_eq_some.1 hx).2,
      fun x c hx => h.2 x c (Option.ite_none_left_eq_some.1 hx).2⟩
  all_goals cases hs

theorem removeAliased_aliasOk {σ : Env K} {vs : List (Var K)} {s s' : AR} : AliasOk σ s →
    removeAliased vs s = .ok s' → AliasOk σ s' := by
  fun_induction removeAliased vs s <;> intro h hs
  case case1 =>
    cases hs
    exact h
  case case2 har ih => exact ih (remove_aliasOk h har) hs
  case case3 => cases hs
  case case4 ih => exact ih h hs

/-- all variable names of the model are distinct (they are keys of one Python dict, `all_states`) -/
def NamesNodup (m : Model K) : Prop :=
  (names m.states ++ names m.ders ++ names m.algs ++ names m.inputs ++ names m.params ++ names m.consts).Nodup

namespace NamesNodup
variable {m : Model K} (h : NamesNodup m)
include h

/- `(List.nodup_append.1 _).1` takes the last list off; `.2.1` says that list has no duplicates, `.2.2` that it
   shares no name with the lists before it. -/

theorem consts : (names m.consts).Nodup :=
  (List.nodup_append.1 h).2.1

theorem params : (names m.params).Nodup :=
  (List.nodup_append.1 (List.nodup_append.1 h).1).2.1

theorem algs : (names m.algs).Nodup :=
  (List.nodup_append.1 (List.nodup_append.1 (List.nodup_append.1 (List.nodup_append.1 h).1).1).1).2.1

theorem param_not_const {n : String} (hp : n ∈ names m.params) : n ∉ names m.consts := fun hc =>
  (List.nodup_append.1 h).2.2 n (List.mem_append_right _ hp) n hc rfl

theorem alg_not_state {n : String} (hn : n ∈ names m.algs) : n ∉ names m.states := fun hs =>
  (List.nodup_append.1 (List.nodup_append.1 (List.nodup_append.1 (List.nodup_append.1 h).1).1).1).2.2 n
    (List.mem_append_left _ hs) n hn rfl

theorem alg_not_param {n : String} (hn : n ∈ names m.algs) : n ∉ names m.params := fun hp =>
  (List.nodup_append.1 (List.nodup_append.1 h).1).2.2 n (List.mem_append_left _ (List.mem_append_right _ hn)) n hp rfl

end NamesNodup

end PymocaVerif.Simplify
