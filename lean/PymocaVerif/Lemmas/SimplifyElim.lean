import PymocaVerif.Lemmas.SimplifyPasses
/-!
# Simplify: `factor_and_simplify_equations` and `eliminable_variable_expression`
-/
set_option linter.unusedSectionVars false
namespace PymocaVerif.Simplify
open PymocaVerif.AliasRel Lean.Grind

variable {K : Type} [Field K] [DecidableEq K]

/-! ## factor_and_simplify_equations -/

/-- the operations `factor` drops do not move zeros: what is assumed of `fabs` and `sqrt` -/
structure InterpOk (I : Interp K) : Prop where
  fabs_zero : ∀ x, I.fabs x = 0 ↔ x = 0
  sqrt_zero : ∀ x, I.sqrt x = 0 ↔ x = 0

/-- the precondition the property states for this option: every constant factor or divisor that
    is dropped is non-zero -/
def FactorPre : Ex K → Prop
  | .un .neg a => FactorPre a
  | .un .fabs a => FactorPre a
  | .un .sqrt a => FactorPre a
  | .bin .mul a b =>
    match b with
    | .const c => c ≠ 0 ∧ FactorPre a
    | _ => match a with
      | .const c => c ≠ 0 ∧ FactorPre b
      | _ => True
  | .bin .div a b =>
    match b with
    | .const c => c ≠ 0 ∧ FactorPre a
    | _ => True
  | _ => True

theorem mul_right_eq_zero {x c : K} (hc : c ≠ 0) : x * c = 0 ↔ x = 0 := by grind
theorem mul_left_eq_zero {x c : K} (hc : c ≠ 0) : c * x = 0 ↔ x = 0 := by grind
theorem div_eq_zero {x c : K} (hc : c ≠ 0) : x / c = 0 ↔ x = 0 := by grind

theorem isConst_eq_true {e : Ex K} (h : e.isConst = true) : ∃ c, e = .const c := by
  cases e <;> first | exact ⟨_, rfl⟩ | cases h

/-- `factor` asks `isConst`, `FactorPre` matches on the constructor -/
theorem factorPre_const_mul {c : K} {b : Ex K} (hb : ¬ b.isConst = true) :
    FactorPre (.bin .mul (.const c) b) ↔ c ≠ 0 ∧ FactorPre b := by
  cases b <;> first | exact Iff.rfl | exact absurd rfl hb

theorem factor_zero_iff {I : Interp K} (hI : InterpOk I) {σ : Env K} (e : Ex K) :
    FactorPre e → ((factor e).eval I σ = 0 ↔ e.eval I σ = 0) := by
  fun_induction factor e <;> intro h
  case case1 a ih => exact (ih h).trans (AddCommGroup.neg_eq_zero _).symm
  case case2 a ih => exact (ih h).trans (hI.fabs_zero _).symm
  case case3 a ih => exact (ih h).trans (hI.sqrt_zero _).symm
  case case4 a b hb ih =>
    obtain ⟨c, rfl⟩ := isConst_eq_true hb
    exact (ih h.2).trans (mul_right_eq_zero h.1).symm
  case case5 a b hb ha ih =>
    obtain ⟨c, rfl⟩ := isConst_eq_true ha
    rw [factorPre_const_mul hb] at h
    exact (ih h.2).trans (mul_left_eq_zero h.1).symm
  case case7 a b hb ih =>
    obtain ⟨c, rfl⟩ := isConst_eq_true hb
    exact (ih h.2).trans (div_eq_zero h.1).symm
  all_goals exact Iff.rfl

theorem factor_sat {I : Interp K} (hI : InterpOk I) {σ : Env K} {m : Model K}
    (hpre : ∀ e ∈ m.eqs, FactorPre e) : Sat I σ (factorAndSimplify m) ↔ Sat I σ m :=
  sat_mapEqs (fun e he => factor_zero_iff hI e (hpre e he)) rfl rfl rfl rfl

/-! ## eliminable_variable_expression -/

/-- precondition for looking through the `if_else_zero` forms: the conditions select exactly one
    branch (this is what CasADi's `if_else(c, a, b) = if_else_zero(c, a) + if_else_zero(!c, b)` gives);
    a lone `if_else_zero(c, x - v)` determines `x` only where `c` holds -/
def ExtractPre (I : Interp K) (σ : Env K) : Ex K → Prop
  | .bin .ifElseZero c e => c.eval I σ ≠ 0 ∧ ExtractPre I σ e
  | .bin .add (.bin .ifElseZero c1 e1) (.bin .ifElseZero c2 e2) =>
    ((c1.eval I σ ≠ 0 ∧ c2.eval I σ = 0) ∨ (c1.eval I σ = 0 ∧ c2.eval I σ ≠ 0)) ∧ ExtractPre I σ e1 ∧ ExtractPre I σ e2
  | _ => True

/-- the forms `extract_assignment` solves for a variable `x`, with the value `v` it returns for `x`;
    which of several candidates is taken (algebraic before differentiated, left before right) depends on
    the context; the shape of what is returned does not -/
inductive Solves (cx : ElimCtx) : Ex K → String → Ex K → Prop
  | sym {x} : x ∈ cx.allSt → Solves cx (.sym x) x (.const 0)
  | guard {c e x v} : Solves cx e x v → Solves cx (.bin .ifElseZero c e) x (.bin .ifElseZero c v)
  | subL {x b} : x ∈ cx.algs ∨ x ∈ cx.states → Solves cx (.bin .sub (.sym x) b) x b
  | subR {x a} : x ∈ cx.algs ∨ x ∈ cx.states → Solves cx (.bin .sub a (.sym x)) x a
  | addL {x b} : x ∈ cx.algs ∨ x ∈ cx.states → Solves cx (.bin .add (.sym x) b) x (.un .neg b)
  | addR {x a} : x ∈ cx.algs ∨ x ∈ cx.states → Solves cx (.bin .add a (.sym x)) x (.un .neg a)
  | guards {c1 e1 c2 e2 x v1 v2} : Solves cx e1 x v1 → Solves cx e2 x v2 →
      Solves cx (.bin .add (.bin .ifElseZero c1 e1) (.bin .ifElseZero c2 e2)) x
        (.bin .add (.bin .ifElseZero c1 v1) (.bin .ifElseZero c2 v2))

theorem extract_solves (cx : ElimCtx) (e : Ex K) : ∀ {x v}, extract cx e = some (x, v) → Solves cx e x v := by
  fun_induction extract cx e <;> intro x v h
  case case3 ih =>
    cases h
    exact .guard (ih ‹_›)
  case case16 a b direct r hd =>
    -- `direct`: the nested tests on the two summands, every branch returns one summand negated
    cases h
    simp +zetaDelta only [] at hd
    repeat' split at hd
    all_goals simp at hd
    all_goals (obtain ⟨rfl, rfl⟩ := hd; constructor; simp [*])
  case case17 h2 _ _ h1 ih1 ih2 =>
    cases h
    exact .guards (ih1 h1) (ih2 h2)
  all_goals simp [*] at h
  all_goals (obtain ⟨rfl, rfl⟩ := h; constructor; simp [*])

theorem Solves.mem {cx : ElimCtx} {e : Ex K} {x : String} {v : Ex K} (h : Solves cx e x v) :
    x ∈ cx.allSt ∨ x ∈ cx.algs ∨ x ∈ cx.states := by
  induction h with
  | sym h => exact .inl h
  | guard _ ih => exact ih
  | subL h | subR h | addL h | addR h => exact .inr h
  | guards _ _ ih _ => exact ih

theorem Solves.eval_iff {I : Interp K} {σ : Env K} {cx : ElimCtx} {e : Ex K} {x : String} {v : Ex K}
    (h : Solves cx e x v) (hp : ExtractPre I σ e) : e.eval I σ = 0 ↔ σ x = v.eval I σ := by
  induction h with
  | sym _ => exact Iff.rfl
  | guard _ ih =>
    simp only [ExtractPre] at hp
    simp only [Ex.eval, if_neg hp.1]
    exact ih hp.2
  | subL _ => exact AddCommGroup.sub_eq_zero_iff
  | subR _ => exact sub_eq_zero_iff'
  | addL _ => exact add_eq_zero_iff
  | addR _ => exact add_eq_zero_iff'
  | guards _ _ ih1 ih2 =>
    simp only [ExtractPre] at hp
    obtain ⟨⟨h1, h2⟩ | ⟨h1, h2⟩, hp1, hp2⟩ := hp
    · simp only [Ex.eval, if_neg h1, if_pos h2, Semiring.add_zero]
      exact ih1 hp1
    · simp only [Ex.eval, if_pos h1, if_neg h2, AddCommMonoid.zero_add]
      exact ih2 hp2

theorem extract_eval_iff {I : Interp K} {σ : Env K} {cx : ElimCtx} {e : Ex K} {x : String} {v : Ex K}
    (h : extract cx e = some (x, v)) (hp : ExtractPre I σ e) : e.eval I σ = 0 ↔ σ x = v.eval I σ :=
  (extract_solves cx e h).eval_iff hp

theorem extract_mem {cx : ElimCtx} {e : Ex K} {x : String} {v : Ex K} (h : extract cx e = some (x, v)) :
    x ∈ cx.allSt ∨ x ∈ cx.algs ∨ x ∈ cx.states :=
  (extract_solves cx e h).mem

@[elab_as_elim]
theorem elimLoop_induct {states allSt matched : List String}
    {motive : List (Ex K) → List (Var K) → List (Ex K) × List (String × Ex K) × List (Var K) → Prop}
    (nil : ∀ algs, motive [] algs ([], [], algs))
    (drop : ∀ e es algs x v r, extract ⟨states, names algs, allSt, matched⟩ e = some (x, v) → x ∉ states →
      elimLoop states allSt matched es (algs.filter (·.name != x)) = .ok r → x ∉ r.2.1.map (·.1) →
      motive es (algs.filter (·.name != x)) r → motive (e :: es) algs (r.1, (x, v) :: r.2.1, r.2.2))
    (keep : ∀ e es algs r, extract ⟨states, names algs, allSt, matched⟩ e = none →
      elimLoop states allSt matched es algs = .ok r → motive es algs r →
      motive (e :: es) algs (e :: r.1, r.2.1, r.2.2)) :
    ∀ es algs r, elimLoop states allSt matched es algs = .ok r → motive es algs r := by
  intro es algs
  fun_induction elimLoop states allSt matched es algs <;> intro r h
  case case1 =>
    cases h
    exact nil _
  case case5 hext hx r' hr' hdup ih =>
    cases h
    exact drop _ _ _ _ _ r' hext hx hr' (by simpa using hdup) (ih r' hr')
  case case7 hext r' hr' ih =>
    cases h
    exact keep _ _ _ r' hext hr' (ih r' hr')
  all_goals cases h

theorem elimLoop_ok {states allSt matched : List String} {es : List (Ex K)} {algs : List (Var K)}
    {r : List (Ex K) × List (String × Ex K) × List (Var K)} (h : elimLoop states allSt matched es algs = .ok r) :
    (∀ e ∈ r.1, e ∈ es) ∧
    (∀ v ∈ algs, v.name ∈ names r.2.2 ∨ v.name ∈ r.2.1.map (·.1)) ∧
    (∀ e ∈ es, e ∈ r.1 ∨ ∃ cx x v, extract cx e = some (x, v) ∧ (x, v) ∈ r.2.1) ∧
    (r.2.1.map (·.1)).Nodup := by
  refine elimLoop_induct ?_ ?_ ?_ es algs r h
  · exact fun algs => ⟨fun _ h => h, fun v hv => Or.inl (List.mem_map_of_mem hv),
      fun _ h => absurd h List.not_mem_nil, List.nodup_nil⟩
  · intro e es algs x v r' hext _ _ hnew ⟨i1, i2, i3, i4⟩
    refine ⟨fun y hy => List.mem_cons_of_mem _ (i1 y hy), fun w hw => ?_, fun y hy => ?_, List.nodup_cons.2 ⟨hnew, i4⟩⟩
    · by_cases hwx : w.name = x
      · exact Or.inr (List.mem_cons.2 (Or.inl hwx))
      · exact (i2 w (List.mem_filter.2 ⟨hw, bne_iff_ne.2 hwx⟩)).imp_right (List.mem_cons_of_mem _)
    · rcases List.mem_cons.1 hy with rfl | hy
      · exact Or.inr ⟨_, x, v, hext, List.mem_cons_self ..⟩
      · exact (i3 y hy).imp_right fun ⟨cx, x', v', h1, h2⟩ => ⟨cx, x', v', h1, List.mem_cons_of_mem _ h2⟩
  · intro e es algs r' _ _ ⟨i1, i2, i3, i4⟩
    refine ⟨fun y hy => ?_, i2, fun y hy => ?_, i4⟩
    · exact (List.mem_cons.1 hy).elim (fun e => e ▸ List.mem_cons_self ..) fun h => List.mem_cons_of_mem _ (i1 y h)
    · rcases List.mem_cons.1 hy with rfl | hy
      · exact Or.inl (List.mem_cons_self ..)
      · exact (i3 y hy).imp_left (List.mem_cons_of_mem _)

theorem elimLoop_sound {I : Interp K} {σ : Env K} {states allSt matched : List String}
    {es : List (Ex K)} {algs : List (Var K)} {r : List (Ex K) × List (String × Ex K) × List (Var K)}
    (h : elimLoop states allSt matched es algs = .ok r) :
    (∀ e ∈ es, ExtractPre I σ e) → EqOk I σ es → EqOk I σ r.1 ∧ HoldsL I σ r.2.1 := by
  refine elimLoop_induct ?_ ?_ ?_ es algs r h
  · exact fun _ _ _ => ⟨nofun, nofun⟩
  · intro e es algs x v r hext _ _ _ ih hpre heq
    have hpre := List.forall_mem_cons.1 hpre
    have heq := eqok_cons.1 heq
    have ih := ih hpre.2 heq.2
    exact ⟨ih.1, List.forall_mem_cons.2 ⟨(extract_eval_iff hext hpre.1).1 heq.1, ih.2⟩⟩
  · intro e es algs r _ _ ih hpre heq
    have heq := eqok_cons.1 heq
    have ih := ih (List.forall_mem_cons.1 hpre).2 heq.2
    exact ⟨eqok_cons.2 ⟨heq.1, ih.1⟩, ih.2⟩

theorem eliminateVariables_ok {E : Engine K} {expandMx : Bool} {matched : List String} {m m' : Model K}
    (h : eliminateVariables E expandMx matched m = .ok m') :
    ∃ r, elimLoop (names m.states) (names m.states ++ names m.algs) matched m.eqs m.algs = .ok r ∧
      ((r.2.1 = [] ∧ m' = { m with eqs := r.1, algs := r.2.2 }) ∨
       ∃ w, m' = { m with eqs := r.1.map (E.sub (elimList E r.2.1)), algs := r.2.2,
                          inits := m.inits.map (E.sub (elimList E r.2.1)),
                          delays := substDelays E (elimList E r.2.1) m.delays, warned := w }) := by
  revert h
  fun_cases eliminateVariables E expandMx matched m <;> intro h
  case case3 r hr _ _ hemp => exact ⟨r, hr, .inl ⟨List.isEmpty_iff.1 hemp, (Except.ok.inj h).symm⟩⟩
  case case4 r hr _ _ _ vs ok hfix _ =>
    obtain rfl := congrArg Prod.fst hfix
    exact ⟨r, hr, .inr ⟨_, (Except.ok.inj h).symm⟩⟩
  all_goals cases h

theorem elim_sound {I : Interp K} {E : Engine K} (hE : EngineOk I E) {σ : Env K} {expandMx : Bool}
    {matched : List String} {m m' : Model K} (h : eliminateVariables E expandMx matched m = .ok m')
    (hpre : ∀ e ∈ m.eqs, ExtractPre I σ e) (hs : Sat I σ m) : Sat I σ m' := by
  obtain ⟨r, hr, hm'⟩ := eliminateVariables_ok h
  have hr := elimLoop_sound hr hpre hs.eqs
  obtain ⟨_, rfl⟩ | ⟨w, rfl⟩ := hm'
  · exact ⟨hr.1, hs.params, hs.consts, hs.alias⟩
  · have hfix : HoldsL I σ (elimList E r.2.1) := fixValues_holds hE _ 100 _ (by rw [zip_fst_snd]; exact hr.2)
    exact ⟨(eqok_sub hE hfix).2 hr.1, hs.params, hs.consts, hs.alias⟩

end PymocaVerif.Simplify
