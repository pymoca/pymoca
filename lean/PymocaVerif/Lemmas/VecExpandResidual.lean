import PymocaVerif.Lemmas.VecExpand
/-!
Lemmas for `residual_renamed` (C18): the renamed point built by `renameEnv` gives every scalar
symbol the element it stands for, and `reshape(vertcat …).T` of those scalars rebuilds the matrix.
-/
namespace PymocaVerif.VecExpand

/-- What `residual_renamed` asks of the declarations and the point: names are distinct and split as
    `pre ++ dotJoin parts ++ post` with one dimension list per part, no piece contains a bracket (so `unbr`
    recovers the name from a scalar's), and every declared symbol is bound to a matrix of its declared shape. -/
structure WF (ds : List Decl) (env : Env) : Prop where
  distinct : ∀ d1 ∈ ds, ∀ d2 ∈ ds, d1.name = d2.name → d1 = d2
  parsed : ∀ d ∈ ds, d.name = d.pre ++ dotJoin d.parts ++ d.post
  levels : ∀ d ∈ ds, d.parts.length = d.ms.length
  nobr : ∀ d ∈ ds, NoBr d.pre ∧ NoBr d.post ∧ ∀ p ∈ d.parts, NoBr p
  shaped : ∀ d ∈ ds, ∃ m, env d.name = some m ∧ m.rows = (mxShape d.dims).1 ∧
    m.cols = (mxShape d.dims).2 ∧ m.data.length = prod d.dims

/-- expressions of the unexpanded model: every symbol is declared, no packed scalars yet -/
def Closed (ds : List Decl) : Expr → Prop
  | .var n => ∃ d ∈ ds, d.name = n
  | .pack _ _ _ => False
  | .el e _ => Closed ds e
  | .const _ => True
  | .add a b => Closed ds a ∧ Closed ds b
  | .sub a b => Closed ds a ∧ Closed ds b
  | .emul a b => Closed ds a ∧ Closed ds b
  | .smul _ a => Closed ds a
  | .neg a => Closed ds a

theorem elemPos_surj (ds : List Nat) (k : Nat) (hne : ds ≠ []) (hk : k < (mxShape ds).1 * (mxShape ds).2) :
    ∃ idx, InRange ds idx ∧ elemPos ds idx = k := by
  match ds with
  | [] => exact absurd rfl hne
  | [n] => exact ⟨[k], ⟨Nat.mul_one n ▸ hk, trivial⟩, rfl⟩
  | [n, m] =>
    have hk : k < m * n := Nat.mul_comm n m ▸ hk
    have hn : 0 < n := Nat.pos_of_mul_pos_left (Nat.zero_lt_of_lt hk)
    refine ⟨[k % n, k / n], ⟨Nat.mod_lt _ hn, (Nat.div_lt_iff_lt_mul hn).2 hk, trivial⟩, ?_⟩
    show k % n + k / n * n = k
    rw [Nat.mul_comm]
    exact Nat.mod_add_div k n
  | a :: b :: c :: rest =>
    have hk : k < prod (a :: b :: c :: rest) := Nat.lt_of_lt_of_eq hk (Nat.mul_one _)
    exact ⟨unravel _ k, unravel_inRange hk, ravel_unravel hk⟩

theorem substValue_rebuild {ds : List Nat} (hne : ds ≠ []) {data : List Int} (hlen : data.length = prod ds) :
    (substValue (mxShape ds).1 (mxShape ds).2 ((ndindex ds).map fun idx => data.getD (elemPos ds idx) 0)).data
      = data := by
  refine List.ext_getElem ?_ fun k h1 h2 => ?_
  · rw [substValue_data, List.length_map, List.length_range, Nat.mul_comm, prod_mxShape, hlen]
  · obtain ⟨idx, hr, rfl⟩ := elemPos_surj ds k hne (by rw [prod_mxShape, ← hlen]; exact h2)
    rw [List.getElem_eq_getD default, List.getElem_eq_getD 0]
    exact substValue_getD hne hr _

theorem lookup_of_unique {V} {L : List (List Char × V)} {k : List Char} {v : V}
    (hmem : (k, v) ∈ L) (huniq : ∀ v', (k, v') ∈ L → v' = v) : L.lookup k = some v := by
  induction L with
  | nil => cases hmem
  | cons p L ih =>
    obtain ⟨k', v'⟩ := p
    by_cases hk : k = k'
    · subst hk
      rw [List.lookup_cons_self, huniq v' List.mem_cons_self]
    · rw [List.lookup_cons, beq_false_of_ne hk]
      refine ih ((List.mem_cons.1 hmem).resolve_left fun e => hk (Prod.mk.inj e).1) fun v'' h => ?_
      exact huniq v'' (List.mem_cons_of_mem _ h)

theorem scalars_map {ι} {env : Env} {idxs : List ι} {g : ι → List Char} {f : ι → Int}
    (h : ∀ i ∈ idxs, env (g i) = some ⟨1, 1, [f i]⟩) : scalars env (idxs.map g) = some (idxs.map f) := by
  induction idxs with
  | nil => rfl
  | cons i is ih =>
    simp [scalars, h i List.mem_cons_self, ih fun j m => h j (List.mem_cons_of_mem _ m)]

theorem unbr_name {ds : List Decl} {env : Env} (hwf : WF ds env) {d : Decl} (hd : d ∈ ds) :
    unbr false d.name = d.name := by
  obtain ⟨h1, h2, h3⟩ := hwf.nobr d hd
  rw [hwf.parsed d hd]
  exact unbr_of_noBr (noBr_append.2 ⟨noBr_append.2 ⟨h1, noBr_dotJoin h3⟩, h2⟩)

theorem unbr_scalar {ds : List Decl} {env : Env} (hwf : WF ds env) {d : Decl} (hd : d ∈ ds) (idx : List Nat) :
    unbr false (d.scalar idx) = d.name := by
  obtain ⟨h1, h2, h3⟩ := hwf.nobr d hd
  rw [hwf.parsed d hd]
  exact d.unbr_scalar (hwf.levels d hd) h1 h2 h3 idx

theorem mem_renameList {ds : List Decl} {env : Env} (hwf : WF ds env) {k : List Char} {v : IMat}
    (h : (k, v) ∈ renameList ds env) :
    ∃ d ∈ ds, unbr false k = d.name ∧ ∃ m, env d.name = some m ∧
      ((d.dims = [] ∧ k = d.name ∧ v = m) ∨
       (d.dims ≠ [] ∧ ∃ idx ∈ ndindex d.dims, k = d.scalar idx ∧ v = ⟨1, 1, [m.data.getD (elemPos d.dims idx) 0]⟩)) := by
  simp only [renameList, List.mem_flatMap] at h
  obtain ⟨d, hd, hm⟩ := h
  refine ⟨d, hd, ?_⟩
  cases he : env d.name with
  | none => simp [he] at hm
  | some m =>
    simp only [he] at hm
    by_cases hdim : d.dims = []
    · simp only [hdim, if_true, List.mem_singleton, Prod.mk.injEq] at hm
      exact ⟨hm.1 ▸ unbr_name hwf hd, m, rfl, Or.inl ⟨hdim, hm.1, hm.2⟩⟩
    · simp only [hdim, if_false, List.mem_map, Prod.mk.injEq] at hm
      obtain ⟨idx, hi, e1, e2⟩ := hm
      exact ⟨e1 ▸ unbr_scalar hwf hd idx, m, rfl, Or.inr ⟨hdim, idx, hi, e1.symm, e2.symm⟩⟩

/-- A key occurs with one value only: the key gives the declaration (strip the brackets), and
    within a declaration the name gives the index tuple. -/
theorem renameList_functional {ds : List Decl} {env : Env} (hwf : WF ds env) {k : List Char} {v v' : IMat}
    (h : (k, v) ∈ renameList ds env) (h' : (k, v') ∈ renameList ds env) : v' = v := by
  obtain ⟨d, hd, hk, m, hm, hv⟩ := mem_renameList hwf h
  obtain ⟨d', hd', hk', m', hm', hv'⟩ := mem_renameList hwf h'
  obtain rfl : d = d' := hwf.distinct d hd d' hd' (hk.symm.trans hk')
  obtain rfl : m = m' := Option.some.inj (hm.symm.trans hm')
  rcases hv with ⟨hnil, -, rfl⟩ | ⟨hne, idx, hi, rfl, rfl⟩
  · rcases hv' with ⟨-, -, rfl⟩ | ⟨hne', -⟩
    · rfl
    · exact absurd hnil hne'
  · rcases hv' with ⟨hnil', -⟩ | ⟨-, idx', hi', e, rfl⟩
    · exact absurd hnil' hne
    · rw [d.scalar_inj (hwf.levels d hd) idx idx' (inRange_length (mem_ndindex.1 hi))
        (inRange_length (mem_ndindex.1 hi')) e]

theorem renameEnv_of_mem {ds : List Decl} {env : Env} (hwf : WF ds env) {k : List Char} {v : IMat}
    (h : (k, v) ∈ renameList ds env) : renameEnv ds env k = some v :=
  lookup_of_unique h fun _ h' => renameList_functional hwf h h'

theorem renameEnv_scalar_decl {ds : List Decl} {env : Env} (hwf : WF ds env) {d : Decl} (hd : d ∈ ds)
    (hdim : d.dims = []) : renameEnv ds env d.name = env d.name := by
  obtain ⟨m, hm, _⟩ := hwf.shaped d hd
  rw [hm]
  apply renameEnv_of_mem hwf
  simp only [renameList, List.mem_flatMap]
  exact ⟨d, hd, by simp [hm, hdim]⟩

theorem renameEnv_elem {ds : List Decl} {env : Env} (hwf : WF ds env) {d : Decl} (hd : d ∈ ds)
    (hdim : d.dims ≠ []) {m : IMat} (hm : env d.name = some m) {idx : List Nat} (hi : idx ∈ ndindex d.dims) :
    renameEnv ds env (d.scalar idx) = some ⟨1, 1, [m.data.getD (elemPos d.dims idx) 0]⟩ := by
  apply renameEnv_of_mem hwf
  simp only [renameList, List.mem_flatMap]
  refine ⟨d, hd, ?_⟩
  simp only [hm, hdim, if_false, List.mem_map]
  exact ⟨idx, hi, rfl⟩

theorem tableOf_decl {ds : List Decl} {env : Env} (hwf : WF ds env) {d : Decl} (hd : d ∈ ds) :
    tableOf ds d.name = d.entry := by
  simp only [tableOf]
  cases hf : ds.find? (fun d' => decide (d'.name = d.name)) with
  | none =>
    have := List.find?_eq_none.1 hf d hd
    simp at this
  | some d0 =>
    have h1 := List.find?_some hf
    have h2 := List.mem_of_find?_eq_some hf
    have : d0 = d := hwf.distinct d0 h2 d hd (by simpa using h1)
    rw [this]

theorem eval_pack {ds : List Decl} {env : Env} (hwf : WF ds env) {d : Decl} (hd : d ∈ ds) (hdim : d.dims ≠ []) :
    eval (renameEnv ds env) (.pack (mxShape d.dims).1 (mxShape d.dims).2 d.names) = env d.name := by
  obtain ⟨m, hm, hr, hc, hl⟩ := hwf.shaped d hd
  have hs : scalars (renameEnv ds env) d.names
      = some ((ndindex d.dims).map fun idx => m.data.getD (elemPos d.dims idx) 0) :=
    scalars_map fun idx hi => renameEnv_elem hwf hd hdim hm hi
  simp only [eval, hs, List.length_map, ndindex_length, prod_mxShape, if_true, hm]
  congr 1
  obtain ⟨rows, cols, data⟩ := m
  obtain rfl : rows = _ := hr
  obtain rfl : cols = _ := hc
  exact congrArg (Mat.mk _ _) (substValue_rebuild hdim hl)

/-! ### example data: `Real w[2,2]; Real z;` with `w = [[1,2],[3,4]]` (stored 1,3,2,4), `z = 5` -/
def exW : Decl := ⟨['w'], [], [['w']], [], [some [2, 2]]⟩
def exZ : Decl := ⟨['z'], [], [['z']], [], [none]⟩
def exDecls : List Decl := [exW, exZ]
def exEnv : Env := fun n =>
  if n = ['w'] then some ⟨2, 2, [1, 3, 2, 4]⟩ else if n = ['z'] then some ⟨1, 1, [5]⟩ else none
/-- `w .* w - z` -/
def exEq : Expr := .sub (.emul (.var ['w']) (.var ['w'])) (.var ['z'])

theorem exEq_expanded :
    eval (renameEnv exDecls exEnv) (expandE (tableOf exDecls) exEq) = some ⟨2, 2, [-4, 4, -1, 11]⟩ := by decide +kernel

theorem forall_exDecls {P : Decl → Prop} : (∀ d ∈ exDecls, P d) ↔ P exW ∧ P exZ := by
  simp [exDecls]

theorem exWF : WF exDecls exEnv :=
  { distinct := forall_exDecls.2
      ⟨forall_exDecls.2 ⟨fun _ => rfl, fun e => absurd e (by decide)⟩,
       forall_exDecls.2 ⟨fun e => absurd e (by decide), fun _ => rfl⟩⟩
    parsed := forall_exDecls.2 ⟨rfl, rfl⟩
    levels := forall_exDecls.2 ⟨rfl, rfl⟩
    nobr := forall_exDecls.2 ⟨by simp [NoBr, exW], by simp [NoBr, exZ]⟩
    shaped := forall_exDecls.2
      ⟨⟨⟨2, 2, [1, 3, 2, 4]⟩, rfl, rfl, rfl, rfl⟩, ⟨⟨1, 1, [5]⟩, rfl, rfl, rfl, rfl⟩⟩ }

theorem exClosed : Closed exDecls exEq :=
  have hw : Closed exDecls (.var ['w']) := ⟨exW, List.mem_cons_self, rfl⟩
  ⟨⟨hw, hw⟩, exZ, List.mem_cons_of_mem _ List.mem_cons_self, rfl⟩

end PymocaVerif.VecExpand
