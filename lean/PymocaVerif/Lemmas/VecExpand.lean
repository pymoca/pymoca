import PymocaVerif.Model.VecExpand
/-!
Lemmas for C18 (`_expand_vectors`): row-major index arithmetic, decimal numerals and the name format
(the index tuple and the variable can be read back from a scalar's name), storage positions of the
elements, attribute selection.
-/
namespace PymocaVerif.VecExpand

theorem lin_lt {i j r c : Nat} (hi : i < r) (hj : j < c) : i + j * r < c * r := by
  have h1 : (j + 1) * r ≤ c * r := Nat.mul_le_mul_right r hj
  have h2 : (j + 1) * r = j * r + r := Nat.succ_mul j r
  omega

theorem lin_div {i j r : Nat} (hi : i < r) : (i + j * r) / r = j := by
  have hr : 0 < r := by omega
  rw [Nat.add_mul_div_right _ _ hr, Nat.div_eq_of_lt hi]
  omega

theorem lin_mod {i j r : Nat} (hi : i < r) : (i + j * r) % r = i := by
  rw [Nat.add_mul_mod_self_right, Nat.mod_eq_of_lt hi]

theorem getD_map_range {α} {f : Nat → α} {n k : Nat} {d : α} (h : k < n) :
    ((List.range n).map f).getD k d = f k := by
  simp [List.getD_eq_getElem?_getD, h]

theorem ndindex_length (ds : List Nat) : (ndindex ds).length = prod ds := by
  simp [ndindex]

theorem ndindex_getElem (ds : List Nat) (k : Nat) (h : k < (ndindex ds).length) :
    (ndindex ds)[k] = unravel ds k := by
  simp [ndindex]

theorem unravel_length (ds : List Nat) (k : Nat) : (unravel ds k).length = ds.length := by
  induction ds generalizing k with
  | nil => rfl
  | cons d ds ih => simp [unravel, ih]

theorem prod_pos_of_lt {ds : List Nat} {k : Nat} (h : k < prod ds) : 0 < prod ds := by omega

theorem prod_tail_pos {d k : Nat} {ds : List Nat} (h : k < prod (d :: ds)) : 0 < prod ds :=
  Nat.pos_of_ne_zero fun h0 => by simp [prod, h0] at h

theorem ravel_unravel {ds : List Nat} {k : Nat} (h : k < prod ds) : ravel ds (unravel ds k) = k := by
  induction ds generalizing k with
  | nil =>
    simp only [prod] at h
    simp only [ravel]
    omega
  | cons d ds ih =>
    rw [unravel, ravel, ih (Nat.mod_lt _ (prod_tail_pos h)), Nat.mul_comm]
    exact Nat.div_add_mod k (prod ds)

/-- index tuple within the bounds of a shape -/
def InRange : List Nat → List Nat → Prop
  | [], [] => True
  | d :: ds, i :: is => i < d ∧ InRange ds is
  | _, _ => False

theorem inRange_nil {idx : List Nat} : InRange [] idx ↔ idx = [] := by
  cases idx <;> simp [InRange]

theorem inRange_cons {d : Nat} {ds idx : List Nat} :
    InRange (d :: ds) idx ↔ ∃ i is, idx = i :: is ∧ i < d ∧ InRange ds is := by
  cases idx with
  | nil => exact ⟨False.elim, fun ⟨_, _, e, _⟩ => nomatch e⟩
  | cons i is => exact ⟨fun h => ⟨i, is, rfl, h⟩, fun ⟨_, _, e, h⟩ => by cases e; exact h⟩

theorem inRange_length {ds idx : List Nat} (h : InRange ds idx) : idx.length = ds.length := by
  induction ds generalizing idx with
  | nil => rw [inRange_nil.1 h]
  | cons d ds ih =>
    obtain ⟨i, is, rfl, -, his⟩ := inRange_cons.1 h
    simp only [List.length_cons, ih his]

theorem inRange_drop {lead ds idx : List Nat} (h : InRange (lead ++ ds) idx) :
    InRange ds (idx.drop lead.length) := by
  induction lead generalizing idx with
  | nil => exact h
  | cons d lead ih =>
    obtain ⟨i, is, rfl, -, his⟩ := inRange_cons.1 h
    exact ih his

theorem ravel_lt {ds idx : List Nat} (h : InRange ds idx) : ravel ds idx < prod ds := by
  induction ds generalizing idx with
  | nil =>
    rw [inRange_nil.1 h]
    exact Nat.one_pos
  | cons d ds ih =>
    obtain ⟨i, is, rfl, hi, his⟩ := inRange_cons.1 h
    rw [ravel, prod, Nat.add_comm]
    exact lin_lt (ih his) hi

theorem unravel_ravel {ds idx : List Nat} (h : InRange ds idx) : unravel ds (ravel ds idx) = idx := by
  induction ds generalizing idx with
  | nil =>
    rw [inRange_nil.1 h]
    rfl
  | cons d ds ih =>
    obtain ⟨i, is, rfl, -, his⟩ := inRange_cons.1 h
    have h1 := ravel_lt his
    rw [ravel, unravel, Nat.add_comm, lin_div h1, lin_mod h1, ih his]

theorem unravel_inRange {ds : List Nat} {k : Nat} (h : k < prod ds) : InRange ds (unravel ds k) := by
  induction ds generalizing k with
  | nil => trivial
  | cons d ds ih =>
    have hp := prod_tail_pos h
    exact ⟨(Nat.div_lt_iff_lt_mul hp).2 h, ih (Nat.mod_lt _ hp)⟩

theorem ndindex_getElem?_ravel {ds idx : List Nat} (h : InRange ds idx) :
    (ndindex ds)[ravel ds idx]? = some idx := by
  rw [List.getElem?_eq_getElem (by rw [ndindex_length]; exact ravel_lt h), ndindex_getElem,
    unravel_ravel h]

theorem ndindex_map_getElem?_ravel {α} (f : List Nat → α) {ds idx : List Nat} (h : InRange ds idx) :
    ((ndindex ds).map f)[ravel ds idx]? = some (f idx) := by
  rw [List.getElem?_map, ndindex_getElem?_ravel h]
  rfl

theorem mem_ndindex {ds idx : List Nat} : idx ∈ ndindex ds ↔ InRange ds idx := by
  simp only [ndindex, List.mem_map, List.mem_range]
  constructor
  · rintro ⟨k, hk, rfl⟩
    exact unravel_inRange hk
  · intro h
    exact ⟨ravel ds idx, ravel_lt h, unravel_ravel h⟩

/-- `dec` is core's `Nat.toDigits 10`; what is needed about numerals is taken from there -/
theorem decAux_eq_toDigits (f n : Nat) (h : n < f) : decAux f n = Nat.toDigits 10 n := by
  have hd : ∀ d, d < 10 → digitChar d = Nat.digitChar d := by decide
  induction f generalizing n with
  | zero => omega
  | succ f ih =>
    by_cases hn : n < 10
    · rw [decAux, if_pos hn, Nat.toDigits_of_lt_base hn, hd n hn]
    · rw [decAux, if_neg hn, ih (n / 10) (by omega), Nat.toDigits_of_base_le (by decide) (Nat.le_of_not_lt hn),
        hd _ (Nat.mod_lt _ (by decide))]

theorem dec_eq_toDigits (n : Nat) : dec n = Nat.toDigits 10 n :=
  decAux_eq_toDigits (n + 1) n (Nat.lt_succ_self n)

theorem dec_digits (n : Nat) : ∀ c ∈ dec n, c.isDigit = true := fun _ hc =>
  Nat.isDigit_of_mem_toDigits (by decide) (Nat.le_refl 10) (dec_eq_toDigits n ▸ hc)

theorem dec_ne_nil (n : Nat) : dec n ≠ [] :=
  dec_eq_toDigits n ▸ Nat.toDigits_ne_nil

theorem dec_inj {a b : Nat} (h : dec a = dec b) : a = b := by
  rw [dec_eq_toDigits, dec_eq_toDigits] at h
  rw [← Nat.ofDigitChars_toDigits (b := 10) (n := a) (by decide) (by decide), h,
    Nat.ofDigitChars_toDigits (by decide) (by decide)]

/-- a list that is empty or starts with a character that is not a digit -/
def NDHead (l : List Char) : Prop := ∀ c r, l = c :: r → c.isDigit = false

theorem takeWhile_digits {xs x : List Char} (hx : ∀ c ∈ xs, c.isDigit = true) (nx : NDHead x) :
    (xs ++ x).takeWhile Char.isDigit = xs := by
  rw [List.takeWhile_append_of_pos hx]
  cases x with
  | nil => simp
  | cons c r => rw [List.takeWhile_cons_of_neg (by simp [nx c r rfl]), List.append_nil]

theorem digits_span {xs ys x y : List Char} (hx : ∀ c ∈ xs, c.isDigit = true) (hy : ∀ c ∈ ys, c.isDigit = true)
    (nx : NDHead x) (ny : NDHead y) (h : xs ++ x = ys ++ y) : xs = ys ∧ x = y := by
  have e : xs = ys := by rw [← takeWhile_digits hx nx, h, takeWhile_digits hy ny]
  subst e
  exact ⟨rfl, List.append_cancel_left h⟩

/-- a numeral is not empty, so it cannot be where a non-digit is -/
theorem dec_append_ne {n : Nat} {x y : List Char} (nx : NDHead x) (ny : NDHead y) : x ≠ dec n ++ y := by
  intro h
  have := digits_span (xs := []) (fun _ hc => nomatch hc) (dec_digits n) nx ny h
  exact dec_ne_nil n this.1.symm

theorem stripDer_eq_nil_iff (s : List Char) : stripDer s = ([], s) ↔ ¬ ['d', 'e', 'r', '('] <+: s := by
  constructor
  · rintro h ⟨rest, rfl⟩
    rw [List.cons_append, List.cons_append, List.cons_append, List.cons_append, stripDer] at h
    exact List.cons_ne_nil _ _ (Prod.mk.inj h).1
  · exact fun h => stripDer.eq_2 s fun rest e => h ⟨rest, e.symm⟩

theorem stripDer_append_rparen {core : List Char} (h : stripDer core = ([], core)) :
    stripDer (core ++ [')']) = ([], core ++ [')']) := by
  rw [stripDer_eq_nil_iff] at h ⊢
  intro hp
  rcases List.prefix_concat_iff.1 hp with e | hp
  · have : ')' ∈ ['d', 'e', 'r', '('] := e ▸ List.mem_append_right _ List.mem_cons_self
    exact absurd this (by decide)
  · exact h hp

/-! `commaTail`/`dotTail` are the functions with a clean recursion; the facts about `commaSep`/`dotJoin`
of a non-empty list follow by putting the separator in front:
`commaTail (y :: r) = ',' :: commaSep (y :: r)` and `dotTail (y :: r) = '.' :: dotJoin (y :: r)` hold
by definition. -/

theorem ndhead_cons {c : Char} (h : c.isDigit = false) (l : List Char) : NDHead (c :: l) := by
  intro c' r e
  cases e
  exact h

theorem ndhead_commaTail_rbr (xs : List (List Char)) (l : List Char) : NDHead (commaTail xs ++ ']' :: l) := by
  cases xs with
  | nil => exact ndhead_cons (by decide) l
  | cons y r => exact ndhead_cons (by decide) _

theorem commaTail_inj {a b : List Nat} {X1 X2 : List Char}
    (h : commaTail (a.map fun i => dec (i + 1)) ++ ']' :: X1 =
      commaTail (b.map fun i => dec (i + 1)) ++ ']' :: X2) : a = b ∧ X1 = X2 := by
  -- tuples of different length: `]` would have to be `,`
  induction a generalizing b with
  | nil =>
    cases b with
    | nil => exact ⟨rfl, (List.cons.inj h).2⟩
    | cons y b => exact absurd (List.cons.inj h).1 (by decide)
  | cons x a ih =>
    cases b with
    | nil => exact absurd (List.cons.inj h).1 (by decide)
    | cons y b =>
      simp only [List.map_cons, commaTail, List.cons_append, List.cons.injEq, true_and,
        List.append_assoc] at h
      have := digits_span (dec_digits _) (dec_digits _) (ndhead_commaTail_rbr _ X1)
        (ndhead_commaTail_rbr _ X2) h
      have r := ih this.2
      exact ⟨by rw [r.1, Nat.add_right_cancel (dec_inj this.1)], r.2⟩

theorem idxText_inj {a b : List Nat} {X1 X2 : List Char}
    (h : idxText a ++ X1 = idxText b ++ X2) : a = b ∧ X1 = X2 := by
  simp only [idxText, List.cons_append, List.cons.injEq, true_and, List.append_assoc] at h
  -- an empty tuple against a non-empty one: `]` would have to start a numeral
  cases a with
  | nil =>
    cases b with
    | nil => exact ⟨rfl, (List.cons.inj h).2⟩
    | cons y b =>
      simp only [List.map_cons, commaSep, List.append_assoc] at h
      exact absurd h (dec_append_ne (ndhead_cons (by decide) _) (ndhead_commaTail_rbr _ _))
  | cons x a =>
    cases b with
    | nil =>
      simp only [List.map_cons, commaSep, List.append_assoc] at h
      exact absurd h.symm (dec_append_ne (ndhead_cons (by decide) _) (ndhead_commaTail_rbr _ _))
    | cons y b => exact commaTail_inj (a := x :: a) (b := y :: b) (congrArg (',' :: ·) h)

/-- what a level adds to its name component: nothing, or the indices it consumes -/
def lvText : Level → List Nat → List Char
  | none, _ => []
  | some ds, idx => idxText (idx.take ds.length)

/-- number of indices a level consumes -/
def lvLen : Level → Nat
  | none => 0
  | some ds => ds.length

theorem nameLevels_cons (p : List Char) (lv : Level) (rest : List (List Char × Level)) (idx : List Nat) :
    nameLevels ((p, lv) :: rest) idx = (p ++ lvText lv idx) :: nameLevels rest (idx.drop (lvLen lv)) := by
  cases lv with
  | none => simp only [nameLevels, lvText, lvLen, List.append_nil, List.drop_zero]
  | some ds => rfl

theorem lvText_inj {lv : Level} {i1 i2 : List Nat} {R1 R2 : List Char}
    (h : lvText lv i1 ++ R1 = lvText lv i2 ++ R2) : i1.take (lvLen lv) = i2.take (lvLen lv) ∧ R1 = R2 := by
  cases lv with
  | none => exact ⟨rfl, h⟩
  | some ds => exact idxText_inj h

/-- number of indices the levels consume -/
def need : List (List Char × Level) → Nat
  | [] => 0
  | (_, lv) :: rest => lvLen lv + need rest

theorem dotTail_nameLevels_inj {L : List (List Char × Level)} {i1 i2 : List Nat} {R1 R2 : List Char}
    (h : dotTail (nameLevels L i1) ++ R1 = dotTail (nameLevels L i2) ++ R2) :
    i1.take (need L) = i2.take (need L) ∧ R1 = R2 := by
  induction L generalizing i1 i2 with
  | nil => exact ⟨rfl, h⟩
  | cons pl rest ih =>
    obtain ⟨p, lv⟩ := pl
    simp only [nameLevels_cons, dotTail, List.cons_append, List.cons.injEq, true_and, List.append_assoc] at h
    obtain ⟨e, h⟩ := lvText_inj (List.append_cancel_left h)
    obtain ⟨er, hR⟩ := ih h
    exact ⟨by rw [need, List.take_add, List.take_add, e, er], hR⟩

theorem dotJoin_nameLevels_inj {L : List (List Char × Level)} {i1 i2 : List Nat} {R1 R2 : List Char}
    (h : dotJoin (nameLevels L i1) ++ R1 = dotJoin (nameLevels L i2) ++ R2) :
    i1.take (need L) = i2.take (need L) ∧ R1 = R2 := by
  cases L with
  | nil => exact ⟨rfl, h⟩
  | cons pl rest =>
    obtain ⟨p, lv⟩ := pl
    refine dotTail_nameLevels_inj (L := (p, lv) :: rest) ?_
    simp only [nameLevels_cons] at h ⊢
    exact congrArg ('.' :: ·) h

theorem need_zip {parts : List (List Char)} {ms : MShape} (h : parts.length = ms.length) :
    need (parts.zip ms) = (iterShape ms).length := by
  induction parts generalizing ms with
  | nil =>
    obtain rfl := List.length_eq_zero_iff.1 h.symm
    rfl
  | cons p parts ih =>
    cases ms with
    | nil => cases h
    | cons l ms =>
      have hl : lvLen l = (l.getD []).length := by cases l <;> rfl
      simp only [List.zip_cons_cons, need, iterShape, List.flatMap_cons, List.length_append, hl]
      exact congrArg _ (ih (Nat.succ.inj h))

/-- remove every `[ … ]` group -/
def unbr : Bool → List Char → List Char
  | _, [] => []
  | false, c :: r => if c = '[' then unbr true r else c :: unbr false r
  | true, c :: r => if c = ']' then unbr false r else unbr true r

def NoBr (l : List Char) : Prop := '[' ∉ l

theorem noBr_append {l r : List Char} : NoBr (l ++ r) ↔ NoBr l ∧ NoBr r := by
  simp only [NoBr, List.mem_append, not_or]

theorem noBr_dotTail {l : List (List Char)} (h : ∀ p ∈ l, NoBr p) : NoBr (dotTail l) := by
  induction l with
  | nil => exact List.not_mem_nil
  | cons y r ih =>
    have hr := ih fun p m => h p (List.mem_cons_of_mem _ m)
    have hy : NoBr y := h y List.mem_cons_self
    simp only [dotTail, NoBr, List.mem_cons, List.mem_append, not_or] at *
    exact ⟨by decide, hy, hr⟩

theorem noBr_dotJoin {l : List (List Char)} (h : ∀ p ∈ l, NoBr p) : NoBr (dotJoin l) := by
  cases l with
  | nil => exact List.not_mem_nil
  | cons x r =>
    exact noBr_append.2 ⟨h x List.mem_cons_self, noBr_dotTail fun p m => h p (List.mem_cons_of_mem _ m)⟩

theorem unbr_append_noBr {l X : List Char} (h : NoBr l) : unbr false (l ++ X) = l ++ unbr false X := by
  induction l with
  | nil => rfl
  | cons c l ih =>
    simp only [List.cons_append, unbr, (List.ne_of_not_mem_cons h).symm, if_false,
      ih (List.not_mem_of_not_mem_cons h)]

theorem unbr_of_noBr {l : List Char} (h : NoBr l) : unbr false l = l := by
  have := unbr_append_noBr (X := []) h
  rwa [List.append_nil, unbr, List.append_nil] at this

theorem unbr_true_skip {l X : List Char} (h : ']' ∉ l) : unbr true (l ++ ']' :: X) = unbr false X := by
  induction l with
  | nil => simp only [List.nil_append, unbr, if_true]
  | cons c l ih =>
    simp only [List.cons_append, unbr, (List.ne_of_not_mem_cons h).symm, if_false,
      ih (List.not_mem_of_not_mem_cons h)]

theorem rbr_not_mem_dec (n : Nat) : ']' ∉ dec n :=
  fun h => absurd (dec_digits n _ h) (by decide)

theorem rbr_not_mem_commaTail (a : List Nat) : ']' ∉ commaTail (a.map fun i => dec (i + 1)) := by
  induction a with
  | nil => exact List.not_mem_nil
  | cons x a ih =>
    simp only [List.map_cons, commaTail, List.mem_cons, List.mem_append, not_or]
    exact ⟨by decide, rbr_not_mem_dec _, ih⟩

theorem unbr_idxText (a : List Nat) (X : List Char) : unbr false (idxText a ++ X) = unbr false X := by
  simp only [idxText, List.cons_append, unbr, if_true, List.append_assoc]
  apply unbr_true_skip
  cases a with
  | nil => exact List.not_mem_nil
  | cons x a =>
    simp only [List.map_cons, commaSep, List.mem_append, not_or]
    exact ⟨rbr_not_mem_dec _, rbr_not_mem_commaTail a⟩

theorem unbr_lvText (lv : Level) (idx : List Nat) (X : List Char) :
    unbr false (lvText lv idx ++ X) = unbr false X := by
  cases lv with
  | none => rfl
  | some ds => exact unbr_idxText _ X

theorem unbr_dotTail_nameLevels (L : List (List Char × Level)) (idx : List Nat) (X : List Char)
    (hL : ∀ pl ∈ L, NoBr pl.1) :
    unbr false (dotTail (nameLevels L idx) ++ X) = dotTail (L.map (·.1)) ++ unbr false X := by
  induction L generalizing idx with
  | nil => rfl
  | cons pl rest ih =>
    obtain ⟨p, lv⟩ := pl
    have hp : NoBr p := hL (p, lv) List.mem_cons_self
    have hdot : ('.' : Char) ≠ '[' := by decide
    simp only [nameLevels_cons, dotTail, List.cons_append, List.map_cons, unbr, hdot, if_false, List.append_assoc]
    rw [unbr_append_noBr hp, unbr_lvText, ih _ fun pl m => hL pl (List.mem_cons_of_mem _ m)]

theorem unbr_dotJoin_nameLevels (L : List (List Char × Level)) (idx : List Nat) (X : List Char)
    (hL : ∀ pl ∈ L, NoBr pl.1) :
    unbr false (dotJoin (nameLevels L idx) ++ X) = dotJoin (L.map (·.1)) ++ unbr false X := by
  cases L with
  | nil => rfl
  | cons pl rest =>
    obtain ⟨p, lv⟩ := pl
    have h := unbr_dotTail_nameLevels ((p, lv) :: rest) idx X hL
    simp only [nameLevels_cons] at h ⊢
    exact (List.cons.inj h).2

theorem Decl.scalar_eq (d : Decl) (idx : List Nat) :
    d.scalar idx = d.pre ++ (dotJoin (nameLevels (d.parts.zip d.ms) idx) ++ d.post) :=
  List.append_assoc _ _ _

theorem Decl.scalar_inj (d : Decl) (hp : d.parts.length = d.ms.length) (i1 i2 : List Nat)
    (h1 : i1.length = d.dims.length) (h2 : i2.length = d.dims.length)
    (h : d.scalar i1 = d.scalar i2) : i1 = i2 := by
  rw [d.scalar_eq, d.scalar_eq] at h
  have e := (dotJoin_nameLevels_inj (List.append_cancel_left h)).1
  rw [need_zip hp] at e
  exact (List.take_of_length_le (Nat.le_of_eq h1)).symm.trans
    (e.trans (List.take_of_length_le (Nat.le_of_eq h2)))

theorem Decl.unbr_scalar (d : Decl) (hp : d.parts.length = d.ms.length)
    (hpre : NoBr d.pre) (hpost : NoBr d.post) (hparts : ∀ p ∈ d.parts, NoBr p) (idx : List Nat) :
    unbr false (d.scalar idx) = d.pre ++ dotJoin d.parts ++ d.post := by
  rw [d.scalar_eq, unbr_append_noBr hpre, unbr_dotJoin_nameLevels, List.map_fst_zip (Nat.le_of_eq hp),
    unbr_of_noBr hpost, List.append_assoc]
  intro pl m
  exact hparts pl.1 (List.of_mem_zip m).1

theorem prod_mxShape (ds : List Nat) : (mxShape ds).1 * (mxShape ds).2 = prod ds := by
  match ds with
  | [] => rfl
  | [n] => rfl
  | [n, m] => simp only [mxShape, prod, Nat.mul_one]
  | _ :: _ :: _ :: _ => exact Nat.mul_one _

/-- the storage position `k` of element `idx` and its row-major rank: `k / r + (k % r) * c` is what
    `transpose ∘ reshape` reads at position `k` -/
theorem elemPos_spec {ds idx : List Nat} (hne : ds ≠ []) (h : InRange ds idx) :
    elemPos ds idx < (mxShape ds).1 * (mxShape ds).2 ∧
    elemPos ds idx / (mxShape ds).1 + (elemPos ds idx % (mxShape ds).1) * (mxShape ds).2 = ravel ds idx := by
  match ds with
  | [] => exact absurd rfl hne
  | [n] =>
    obtain ⟨i, _, rfl, hi, his⟩ := inRange_cons.1 h
    obtain rfl := inRange_nil.1 his
    simp only [mxShape, elemPos, ravel, prod, Nat.mul_one, Nat.add_zero, Nat.div_eq_of_lt hi, Nat.mod_eq_of_lt hi]
    omega
  | [n, m] =>
    obtain ⟨i, _, rfl, hi, his⟩ := inRange_cons.1 h
    obtain ⟨j, _, rfl, hj, his⟩ := inRange_cons.1 his
    obtain rfl := inRange_nil.1 his
    simp only [mxShape, elemPos, ravel, prod, Nat.mul_one, Nat.add_zero, lin_div hi, lin_mod hi]
    exact ⟨Nat.mul_comm n m ▸ lin_lt hi hj, Nat.add_comm _ _⟩
  | a :: b :: c :: rest =>
    -- three and more dimensions: a raveled column, `elemPos` is `ravel` by definition
    have hlt : ravel (a :: b :: c :: rest) idx < prod (a :: b :: c :: rest) := ravel_lt h
    show ravel _ idx < prod _ * 1 ∧ ravel _ idx / prod _ + ravel _ idx % prod _ * 1 = ravel _ idx
    rw [Nat.div_eq_of_lt hlt, Nat.mod_eq_of_lt hlt]
    omega

theorem substValue_data {α} [Inhabited α] (r c : Nat) (elems : List α) :
    (substValue r c elems).data = (List.range (c * r)).map fun k => elems.getD (k / r + (k % r) * c) default := rfl

/-- `reshape(vertcat(elements), reversed(shape)).T` of elements listed in `np.ndindex` order holds, at
    the storage position of `idx`, the element listed for `idx` -/
theorem substValue_getD {α} [Inhabited α] {ds idx : List Nat} (hne : ds ≠ []) (h : InRange ds idx)
    (f : List Nat → α) :
    (substValue (mxShape ds).1 (mxShape ds).2 ((ndindex ds).map f)).data.getD (elemPos ds idx) default
      = f idx := by
  obtain ⟨hlt, hpos⟩ := elemPos_spec hne h
  rw [substValue_data, getD_map_range (Nat.mul_comm _ _ ▸ hlt), hpos, ndindex, List.map_map,
    getD_map_range (ravel_lt h), Function.comp, unravel_ravel h]

/-- `Shaped v ds`: `v` is a rectangular nested list of shape `ds` -/
def Shaped : NList → List Nat → Prop
  | .leaf _, ds => ds = []
  | .nil, ds => ∃ ds', ds = 0 :: ds'
  | .cons h t, ds => ∃ d ds', ds = (d + 1) :: ds' ∧ Shaped h ds' ∧ Shaped t (d :: ds')

theorem shaped_nil {v : NList} (h : Shaped v []) : ∃ x, v = .leaf x := by
  cases v with
  | leaf x => exact ⟨x, rfl⟩
  | nil =>
    obtain ⟨_, e⟩ := h
    cases e
  | cons _ _ =>
    obtain ⟨_, _, e, _⟩ := h
    cases e

theorem nth_shaped {v : NList} {d : Nat} {ds : List Nat} {i : Nat} (h : Shaped v (d :: ds)) (hi : i < d) :
    ∃ x, v.nth i = .ok x ∧ Shaped x ds := by
  induction v generalizing d i with
  | leaf _ => cases h
  | nil =>
    obtain ⟨_, e⟩ := h
    cases e
    omega
  | cons hd tl _ iht =>
    obtain ⟨d', ds', e, hh, ht⟩ := h
    cases e
    cases i with
    | zero => exact ⟨hd, rfl, hh⟩
    | succ i => exact iht ht (by omega)

theorem sel_shaped {v : NList} {ds idx : List Nat} (h : Shaped v ds) (hr : InRange ds idx) :
    ∃ x, v.sel idx = .ok (.leaf x) := by
  induction ds generalizing v idx with
  | nil =>
    obtain rfl := inRange_nil.1 hr
    obtain ⟨x, rfl⟩ := shaped_nil h
    exact ⟨x, rfl⟩
  | cons d ds ih =>
    obtain ⟨i, is, rfl, hi, his⟩ := inRange_cons.1 hr
    obtain ⟨x, hx, hs⟩ := nth_shaped h hi
    simp only [NList.sel, hx]
    exact ih hs his

theorem depth_shaped {v : NList} {ds : List Nat} (h : Shaped v ds) (hpos : ∀ d ∈ ds, 0 < d) :
    v.depth = ds.length := by
  induction v generalizing ds with
  | leaf _ =>
    cases h
    rfl
  | nil =>
    obtain ⟨ds', rfl⟩ := h
    exact absurd (hpos 0 List.mem_cons_self) (Nat.lt_irrefl 0)
  | cons hd tl ihh _ =>
    obtain ⟨d', ds', rfl, hh, _⟩ := h
    simp only [NList.depth, List.length_cons, ihh hh fun d m => hpos d (List.mem_cons_of_mem _ m)]

theorem drop_append_length {α} (l t : List α) {n : Nat} (hn : t.length = n) :
    (l ++ t).drop ((l ++ t).length - n) = t := by
  rw [← hn, List.length_append, Nat.add_sub_cancel, List.drop_left]

theorem selDM_trailing {lead l : List Nat} {r c i j : Nat} (hi : i < r) (hj : j < c) :
    selDM (lead ++ [r, c]) r c (l ++ [i, j]) = .ok (i + j * r) := by
  rw [selDM, drop_append_length lead [r, c] (n := 2) rfl, if_pos rfl, drop_append_length l [i, j] (n := 2) rfl,
    selDMFull, if_pos ⟨hi, hj⟩]

theorem selDM_last {ds l : List Nat} {r c i : Nat} (h : ds.drop (ds.length - 2) ≠ [r, c]) (hi : i < r * c) :
    selDM ds r c (l ++ [i]) = .ok i := by
  rw [selDM, if_neg h, drop_append_length l [i] (n := 1) rfl, selDMFull, if_pos hi]

theorem splice_absent {xs : List (List Char)} {name : List Char} {new : List (List Char)} (h : name ∉ xs) :
    splice xs name new = xs := by
  induction xs with
  | nil => rfl
  | cons x r ih =>
    simp only [splice, (List.ne_of_not_mem_cons h).symm, if_false, ih (List.not_mem_of_not_mem_cons h)]

theorem splice_at {l1 l2 : List (List Char)} {name : List Char} {new : List (List Char)} (h : name ∉ l1) :
    splice (l1 ++ name :: l2) name new = l1 ++ new ++ l2 := by
  induction l1 with
  | nil => simp only [List.nil_append, splice, if_true]
  | cons x r ih =>
    simp only [List.cons_append, splice, (List.ne_of_not_mem_cons h).symm, if_false,
      ih (List.not_mem_of_not_mem_cons h)]

end PymocaVerif.VecExpand
