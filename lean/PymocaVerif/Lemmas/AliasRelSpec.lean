import PymocaVerif.Lemmas.AliasRelRemove
/-!
Histories over several relation objects (C17): one step in terms of the object it writes, the
specification (admissible histories, the signed closure, the specification run), the theorem that a
history refines its specification (`history_spec`), and the example states used for non-vacuity.
-/
namespace PymocaVerif.AliasRel

/-- every `add` of the history is admissible in the state in which it is executed -/
def AdmissibleH : Store → List Op → Prop
  | _, [] => True
  | st, op :: ops => admissible st op = true ∧ ∀ st', step st op = some st' → AdmissibleH st' ops

/-- which object an operation writes -/
def Op.target : Op → Nat
  | .add o _ _ => o
  | .remove o _ => o
  | .copy _ dst => dst

/-- what an operation writes there -/
def Op.result (st : Store) : Op → Option AR
  | .add o a b => (st o).add a b
  | .remove o a => (st o).remove a
  | .copy src _ => some (st src).copy

theorem step_eq (st : Store) (op : Op) :
    step st op = (op.result st).map fun s' i => if i = op.target then s' else st i := by
  cases op <;> rfl

theorem step_some {st st' : Store} {op : Op} (h : step st op = some st') :
    op.result st = some (st' op.target) ∧ ∀ o, o ≠ op.target → st' o = st o := by
  rw [step_eq, Option.map_eq_some_iff] at h
  obtain ⟨s', hs, rfl⟩ := h
  exact ⟨hs.trans (congrArg some (if_pos rfl).symm), fun o ho => if_neg ho⟩

theorem admissible_add {st : Store} {o : Nat} {a b : SName} (ha : admissible st (.add o a b) = true) :
    b ∉ (st o).aliases (tog a) :=
  of_decide_eq_false (Eq.mp (Bool.not_eq_true' _) ha)

theorem step_safe {st : Store} (hw : ∀ o, WFR (st o)) {op : Op} (ha : admissible st op = true) :
    ∃ st', step st op = some st' ∧ ∀ o, WFR (st' o) := by
  obtain ⟨s', hs, hw'⟩ : ∃ s', op.result st = some s' ∧ WFR s' := by
    cases op with
    | add o a b => exact (hw o).add (admissible_add ha)
    | remove o a => exact (hw o).remove a
    | copy src dst => exact ⟨_, rfl, hw src⟩
  refine ⟨fun i => if i = op.target then s' else st i, by rw [step_eq, hs]; rfl, fun i => ?_⟩
  show WFR (if i = op.target then s' else st i)
  split
  · exact hw'
  · exact hw i

abbrev Rel := SName → SName → Prop

/-- signed union-find closure: the least equivalence compatible with negation that contains `R`
    and the pair `(a, b)` -/
inductive SClos (R : Rel) (a b : SName) : Rel
  | base {x y} : R x y → SClos R a b x y
  | pair : SClos R a b a b
  | refl {x} : SClos R a b x x
  | symm {x y} : SClos R a b x y → SClos R a b y x
  | trans {x y z} : SClos R a b x y → SClos R a b y z → SClos R a b x z
  | neg {x y} : SClos R a b x y → SClos R a b (tog x) (tog y)

/-- the relation of a state: `y` is in the class of `x` -/
def relOf (s : AR) : Rel := fun x y => y ∈ s.aliases x

/-- dissolving the classes of `a` and `-a` -/
def dissolve (R : Rel) (a : SName) : Rel := fun x y =>
  ((R a x ∨ R (tog a) x) ∧ y = x) ∨ (¬ (R a x ∨ R (tog a) x) ∧ R x y)

/-- the specification of one operation on the family of relations (one per object); `remove` is
    effective when its argument is, at that moment, a canonical variable of the object -/
def specStep (R : Nat → Rel) (st : Store) : Op → (Nat → Rel)
  | .add o a b => fun i => if i = o then SClos (R o) a b else R i
  | .remove o a => fun i =>
      if i = o then (fun x y => if a.1 = false ∧ a.2 ∈ (st o).cv then dissolve (R o) a x y else R o x y) else R i
  | .copy src dst => fun i => if i = dst then R src else R i

/-- the specification of a history, run alongside the model -/
def specRun (R : Nat → Rel) (st : Store) : List Op → (Nat → Rel)
  | [] => R
  | op :: ops =>
    match step st op with
    | some st' => specRun (specStep R st op) st' ops
    | none => R

theorem SClos.le {R S : Rel} {a b : SName} (hS : SEquiv S) (hR : ∀ x y, R x y → S x y) (hab : S a b)
    {x y : SName} (c : SClos R a b x y) : S x y := by
  induction c with
  | base r => exact hR _ _ r
  | pair => exact hab
  | refl => exact hS.refl _
  | symm _ ih => exact hS.symm ih
  | trans _ _ ih1 ih2 => exact hS.trans ih1 ih2
  | neg _ ih => exact hS.neg ih

theorem relOf_add {s s' : AR} (h : ARInv s) {a b : SName} (hpre : b ∉ s.aliases (tog a))
    (hs : s.add a b = some s') (x y : SName) : relOf s' x y ↔ SClos (relOf s) a b x y := by
  by_cases hb : b ∈ s.aliases a
  · rw [add_noop h hb] at hs
    cases hs
    exact ⟨fun r => .base r, SClos.le h.sequiv (fun _ _ r => r) hb⟩
  · rw [eq_addRes_of_add hb hs]
    refine ⟨fun hxy => ?_, SClos.le (addRes_inv h hpre).sequiv
      (fun _ _ => aliases_addRes_mono h hpre) (mem_aliases_addRes_pair h a b)⟩
    have inA : ∀ z, z ∈ AA s a b → SClos (relOf s) a b a z := fun z hz =>
      (List.mem_append.1 hz).elim (fun m => .base m) fun m => .trans .pair (.base m)
    rcases addRes_cases h hpre x with ⟨hx, hal, _⟩ | ⟨hx, hal, _⟩ | ⟨_, _, hal, _⟩
    · rw [relOf, aliases_of_some hal] at hxy
      exact .trans (.symm (inA x hx)) (inA y hxy)
    · rw [relOf, aliases_of_some hal] at hxy
      have := SClos.neg (.trans (.symm (inA _ hx)) (inA _ ((union_tog h a b y).1 hxy)))
      rwa [tog_tog, tog_tog] at this
    · rw [relOf, aliases_congr hal] at hxy
      exact .base hxy

theorem relOf_remove {s s' : AR} (w : WFR s) {a : SName} (hs : s.remove a = some s') (x y : SName) :
    relOf s' x y ↔ (if a.1 = false ∧ a.2 ∈ s.cv then dissolve (relOf s) a x y else relOf s x y) := by
  split
  · next hc =>
    rw [remove_eff w hc.1 hc.2] at hs
    cases hs
    have hm : (relOf s a x ∨ relOf s (tog a) x) ↔ x ∈ RR s a := List.mem_append.symm
    rw [relOf, aliases_removeRes, dissolve, hm]
    by_cases hx : x ∈ RR s a
    · rw [if_pos hx, List.mem_singleton]
      exact ⟨fun e => Or.inl ⟨hx, e⟩, fun d => d.elim And.right fun d => absurd hx d.1⟩
    · rw [if_neg hx]
      exact ⟨fun m => Or.inr ⟨hx, m⟩, fun d => d.elim (fun d => absurd d.1 hx) And.right⟩
  · next hc =>
    rw [remove_noop hc] at hs
    cases hs
    exact Iff.rfl

theorem specStep_frame (R : Nat → Rel) (st : Store) {op : Op} {o : Nat} (ho : o ≠ op.target) :
    specStep R st op o = R o := by
  cases op <;> exact if_neg ho

theorem step_spec {st st' : Store} {op : Op} (hw : ∀ o, WFR (st o)) (ha : admissible st op = true)
    (h1 : step st op = some st') :
    specStep (fun o => relOf (st o)) st op = fun o => relOf (st' o) := by
  funext o x y
  apply propext
  by_cases ho : o = op.target
  · have ht := (step_some h1).1
    cases op with
    | add o' a b =>
      obtain rfl : o = o' := ho
      simp only [specStep, ↓reduceIte]
      exact (relOf_add (hw o).cls (admissible_add ha) ht x y).symm
    | remove o' a =>
      obtain rfl : o = o' := ho
      simp only [specStep, ↓reduceIte]
      exact (relOf_remove (hw o) ht x y).symm
    | copy src dst =>
      obtain rfl : o = dst := ho
      simp only [specStep, ↓reduceIte, (Option.some.inj ht : st src = st' o)]
  · rw [specStep_frame _ st ho, (step_some h1).2 o ho]

/-- **A history refines its specification**: along every admissible history no operation raises,
    every object keeps the invariant, and its relation is the one the specification computes. -/
theorem history_spec {ops : List Op} {st : Store} (hw : ∀ o, WFR (st o)) (ha : AdmissibleH st ops) :
    ∃ st', run st ops = some st' ∧ (∀ o, WFR (st' o)) ∧
      ∀ o x y, relOf (st' o) x y ↔ specRun (fun o => relOf (st o)) st ops o x y := by
  induction ops generalizing st with
  | nil => exact ⟨st, rfl, hw, fun _ _ _ => Iff.rfl⟩
  | cons op ops ih =>
    obtain ⟨st1, h1, hw1⟩ := step_safe hw ha.1
    obtain ⟨st2, h2, hw2, hrel⟩ := ih hw1 (ha.2 st1 h1)
    refine ⟨st2, by rw [run, h1]; exact h2, hw2, ?_⟩
    rw [show specRun (fun o => relOf (st o)) st (op :: ops) = specRun (fun o => relOf (st1 o)) st1 ops by
      simp only [specRun, h1, step_spec hw ha.1 h1]]
    exact hrel

/-! ### example states: `a ~ b`, then `b ~ -c` -/

def exS1 : AR := AR.empty.addRes (false, "a") (false, "b")
def exS2 : AR := exS1.addRes (false, "b") (true, "c")

theorem exS1_wfr : WFR exS1 := addRes_wfr empty_wfr (by decide +kernel) (by decide +kernel)
theorem exS2_wfr : WFR exS2 := addRes_wfr exS1_wfr (by decide +kernel) (by decide +kernel)

end PymocaVerif.AliasRel
