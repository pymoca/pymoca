import PymocaVerif.Lemmas.GenExpr
/-!
# Lemmas for C12: the representation options only put tags on the generated terms

`retag o t` overwrites every tag of `t` (map mode, inline flag, also inside the bodies of called
functions) with the tags option set `o` produces.  Evaluation does not see it (`evalC_retag`), and the
generator under options `o'` produces exactly the `o'`-retagging of what it produces under `o`
(`gen_retag` … `genTable_retag`).
-/
namespace PymocaVerif.Gen
open PymocaVerif.ExprSem

mutual
def retag (o : Opts) : CTerm K → CTerm K
  | .const q => .const q
  | .ref n s => .ref n s
  | .idx i => .idx i
  | .op1 f a => .op1 f (retag o a)
  | .op2 f a b => .op2 f (retag o a) (retag o b)
  | .ifElse c t f => .ifElse (retag o c) (retag o t) (retag o f)
  | .vcat ts => .vcat (retags o ts)
  | .map _ i vals tr body => .map o.mapMode i vals tr (retag o body)
  | .mapAt _ i v body => .mapAt o.mapMode i v (retag o body)
  | .call _ fn args => .call o.inline (retagF o fn) (retags o args)
def retags (o : Opts) : CTerms K → CTerms K
  | .nil => .nil
  | .cons t ts => .cons (retag o t) (retags o ts)
def retagF (o : Opts) : CFunc K → CFunc K
  | .mk ps outs => .mk ps (retags o outs)
end

mutual
theorem evalC_retag (P : Prims K) (o : Opts) : ∀ (t : CTerm K) (ρ : Env K),
    evalC P ρ (retag o t) = evalC P ρ t
  | .const q => fun ρ => rfl
  | .ref n s => fun ρ => rfl
  | .idx i => fun ρ => rfl
  | .op1 f a => fun ρ => by simp only [retag, evalC, evalC_retag P o a ρ]
  | .op2 f a b => fun ρ => by simp only [retag, evalC, evalC_retag P o a ρ, evalC_retag P o b ρ]
  | .ifElse c t f => fun ρ => by
    simp only [retag, evalC, evalC_retag P o c ρ, evalC_retag P o t ρ, evalC_retag P o f ρ]
  | .vcat ts => fun ρ => by simp only [retag, evalC, evalCs_retag P o ts ρ]
  | .map m i vals tr body => fun ρ => by
    simp only [retag, evalC, fun v => evalC_retag P o body (ρ.bind i v)]
  | .mapAt m i v body => fun ρ => by simp only [retag, evalC, evalC_retag P o body (ρ.bind i v)]
  | .call inl fn args => fun ρ => by
    simp only [retag, evalC, evalCs_retag P o args ρ, fun vs => evalCF_retag P o fn vs]
theorem evalCs_retag (P : Prims K) (o : Opts) : ∀ (ts : CTerms K) (ρ : Env K),
    evalCs P ρ (retags o ts) = evalCs P ρ ts
  | .nil => fun ρ => rfl
  | .cons t ts => fun ρ => by simp only [retags, evalCs, evalC_retag P o t ρ, evalCs_retag P o ts ρ]
theorem evalCF_retag (P : Prims K) (o : Opts) : ∀ (fn : CFunc K) (vs : List (List K)),
    evalCF P (retagF o fn) vs = evalCF P fn vs
  | .mk ps outs => fun vs => by simp only [retagF, evalCF, evalCs_retag P o outs]
end

theorem evalCL_retag (P : Prims K) (o : Opts) (ρ : Env K) (ts : List (CTerm K)) :
    evalCL P ρ (ts.map (retag o)) = evalCL P ρ ts := by
  induction ts with
  | nil => rfl
  | cons t ts ih => simp only [List.map_cons, evalCL, evalC_retag P o t ρ, ih]

/-! ## The generator commutes with retagging

Each lemma has the shape `g' x = (g x).map r`; through `bind_map` / `map_bind` a translation that is a
chain of binds commutes as soon as its steps do. -/

@[simp] theorem emap_ok (f : α → β) (a : α) : Except.map f (Except.ok a : Except ε α) = .ok (f a) := rfl
@[simp] theorem emap_error (f : α → β) (e : ε) : Except.map f (Except.error e : Except ε α) = .error e := rfl

/-- The function table as it looks under other options. -/
def retagTab (o : Opts) (T : FTab K) : FTab K := fun f => (T f).map (Except.map (retagF o))

theorem retags_ofList (o : Opts) (ts : List (CTerm K)) :
    retags o (CTerms.ofList ts) = CTerms.ofList (ts.map (retag o)) := by
  induction ts with
  | nil => rfl
  | cons t ts ih => simp only [CTerms.ofList, retags, List.map_cons, ih]

theorem userCall_retag (o o' : Opts) (T : FTab K) (name : String) (args : List (CTerm K)) :
    userCall o' (retagTab o' T) name (args.map (retag o')) = (userCall o T name args).map (retag o') := by
  unfold userCall retagTab
  cases T name with
  | none => rfl
  | some r =>
    cases r with
    | error e => rfl
    | ok fn => simp only [Option.map_some, emap_ok, retag, retags_ofList]

theorem genUn_retag (P : Prims K) (o o' : Opts) (T : FTab K) (op : UnOp) (ta : CTerm K) :
    genUn P o' (retagTab o' T) op (retag o' ta) = (genUn P o T op ta).map (retag o') := by
  cases op with
  | elem e =>
    simp only [genUn]
    split
    · rfl
    · exact userCall_retag o o' T (elemName e) [ta]
  | _ => rfl

theorem genBin_retag (o o' : Opts) (T : FTab K) (op : BinOp) (ta tb : CTerm K) :
    genBin o' (retagTab o' T) op (retag o' ta) (retag o' tb) = (genBin o T op ta tb).map (retag o') := by
  rw [genBin_eq, genBin_eq]
  cases binMeth op with
  | none => exact userCall_retag o o' T (binName op) [ta, tb]
  | some m => rfl

theorem foldFromLast_retag (o : Opts) (cs es : List (CTerm K)) :
    foldFromLast (cs.map (retag o)) (es.map (retag o)) = retag o (foldFromLast cs es) := by
  unfold foldFromLast
  rw [← List.map_reverse, ← List.map_reverse]
  cases es.reverse with
  | nil => rfl
  | cons last restRev =>
    simp only [List.map_cons, List.zip_map, List.foldl_map]
    exact List.foldl_hom (retag o) (fun _ _ => rfl)

mutual
theorem gen_retag (P : Prims K) (o o' : Opts) (T : FTab K) : ∀ e : MExpr K,
    gen P o' (retagTab o' T) e = (gen P o T e).map (retag o')
  | .num q => rfl
  | .ref n s => rfl
  | .idx i => rfl
  | .un op a => by
    simp only [gen, gen_retag P o o' T a, bind_map, map_bind, genUn_retag P o o']
  | .bin op a b => by
    simp only [gen, gen_retag P o o' T a, gen_retag P o o' T b, bind_map, map_bind, genBin_retag o o']
  | .ife bs => by
    simp only [gen, genBr_retag P o o' T bs, bind_map, map_bind, emap_ok, foldFromLast_retag]
  | .call f args => by
    simp only [gen, gens_retag P o o' T args, bind_map, map_bind, userCall_retag o o']
  | .delay k e d => by
    simp only [gen, gen_retag P o o' T e, gen_retag P o o' T d, bind_map, map_bind, emap_ok, retag]
theorem gens_retag (P : Prims K) (o o' : Opts) (T : FTab K) : ∀ es : MExprs K,
    gens P o' (retagTab o' T) es = (gens P o T es).map (List.map (retag o'))
  | .nil => rfl
  | .cons e es => cons_map (gen_retag P o o' T e) (gens_retag P o o' T es)
theorem genBr_retag (P : Prims K) (o o' : Opts) (T : FTab K) : ∀ bs : MBranches K,
    genBr P o' (retagTab o' T) bs =
      (genBr P o T bs).map (fun ce => (ce.1.map (retag o'), ce.2.map (retag o')))
  | .last e => by
    simp only [genBr, gen_retag P o o' T e, bind_map, map_bind, emap_ok, List.map_cons, List.map_nil]
  | .cons c e rest => by
    simp only [genBr, gen_retag P o o' T c, gen_retag P o o' T e, genBr_retag P o o' T rest, bind_map,
      map_bind, emap_ok, List.map_cons]
end

def retagVals (o : Opts) (σ : SymVals K) : SymVals K := σ.map (fun p => (p.1, retag o p.2))

theorem get_retagVals (o : Opts) (x : String) (σ : SymVals K) :
    SymVals.get (retagVals o σ) x = (SymVals.get σ x).map (retag o) := by
  induction σ with
  | nil => rfl
  | cons p rest ih =>
    simp only [retagVals, List.map_cons, SymVals.get]
    split
    · rfl
    · exact ih

theorem lookupAll_retag (o : Opts) (vals : SymVals K) (xs : List String) :
    lookupAll (retagVals o vals) xs = (lookupAll vals xs).map (retagVals o) := by
  induction xs with
  | nil => rfl
  | cons x xs ih =>
    simp only [lookupAll, get_retagVals, ih]
    cases SymVals.get vals x with
    | none => rfl
    | some t => simp only [Option.map_some, bind_map, map_bind, emap_ok, retagVals, List.map_cons]

mutual
theorem subst_retag (o : Opts) (σ : SymVals K) : ∀ t : CTerm K,
    subst (retagVals o σ) (retag o t) = retag o (subst σ t)
  | .const q => rfl
  | .ref n [] => by
    simp only [retag, subst, get_retagVals]
    cases SymVals.get σ n <;> rfl
  | .ref n (s :: ss) => rfl
  | .idx i => rfl
  | .op1 f a => by simp only [subst, retag, subst_retag o σ a]
  | .op2 f a b => by simp only [subst, retag, subst_retag o σ a, subst_retag o σ b]
  | .ifElse c t f => by simp only [subst, retag, subst_retag o σ c, subst_retag o σ t, subst_retag o σ f]
  | .vcat ts => by simp only [subst, retag, substs_retag o σ ts]
  | .map m i vals tr body => by simp only [subst, retag, subst_retag o σ body]
  | .mapAt m i v body => by simp only [subst, retag, subst_retag o σ body]
  | .call inl fn args => by simp only [subst, retag, substs_retag o σ args]
theorem substs_retag (o : Opts) (σ : SymVals K) : ∀ ts : CTerms K,
    substs (retagVals o σ) (retags o ts) = retags o (substs σ ts)
  | .nil => rfl
  | .cons t ts => by simp only [substs, retags, subst_retag o σ t, substs_retag o σ ts]
end

theorem applyAssigns_retag (o : Opts) (as : List (String × CTerm K)) : ∀ vals : SymVals K,
    applyAssigns (retagVals o vals) (retagVals o as) = retagVals o (applyAssigns vals as) := by
  induction as with
  | nil => exact fun _ => rfl
  | cons p rest ih =>
    intro vals
    rw [applyAssigns, ← ih]
    simp only [retagVals, List.map_cons, applyAssigns, ← subst_retag o vals p.2]

def retagCols (o : Opts) (ex : List (String × List (CTerm K))) : List (String × List (CTerm K)) :=
  ex.map (fun p => (p.1, p.2.map (retag o)))

theorem expandInto_retag (o : Opts) (x : String) (t : CTerm K) (acc : List (String × List (CTerm K))) :
    expandInto (retagCols o acc) x (retag o t) = retagCols o (expandInto acc x t) := by
  induction acc with
  | nil => rfl
  | cons p rest ih =>
    simp only [retagCols, List.map_cons, expandInto]
    split
    · simp only [List.map_cons, List.map_append, List.map_nil]
    · exact congrArg (_ :: ·) ih

theorem expandBlocks_retag (o : Opts) (as : List (String × CTerm K)) :
    expandBlocks (retagVals o as) = retagCols o (expandBlocks as) := by
  simp only [expandBlocks, retagVals, List.foldl_map]
  exact List.foldl_hom (retagCols o) (init := []) (fun acc p => expandInto_retag o p.1 p.2 acc)

theorem mergeIf_retag (o : Opts) (tcs vals : List (CTerm K)) :
    mergeIf (tcs.map (retag o)) (vals.map (retag o)) = retag o (mergeIf tcs vals) :=
  foldFromLast_retag o tcs vals

theorem sameLengths_retagCols (o : Opts) (ex : List (String × List (CTerm K))) :
    sameLengths ((retagCols o ex).map (·.2)) = sameLengths (ex.map (·.2)) := by
  cases ex with
  | nil => rfl
  | cons p rest => simp only [retagCols, List.map_cons, sameLengths, List.length_map, List.map_map, List.all_map,
      Function.comp_def]

theorem lhsTerm_retag (o : Opts) : ∀ tl : List (CTerm K), lhsTerm (tl.map (retag o)) = retag o (lhsTerm tl)
  | [] => rfl
  | [t] => rfl
  | t1 :: t2 :: rest => by simp only [lhsTerm, List.map_cons, retag, retags_ofList]

theorem knownFn_retagTab (o : Opts) (T : FTab K) : knownFn (retagTab o T) = knownFn T := by
  funext f
  simp only [knownFn, retagTab, Option.isSome_map]

section
variable (P : Prims K) (o o' : Opts) (T : FTab K)

theorem genL_retag (es : List (MExpr K)) :
    genL P o' (retagTab o' T) es = (genL P o T es).map (List.map (retag o')) := by
  induction es with
  | nil => rfl
  | cons e es ih => exact cons_map (gen_retag P o o' T e) ih

theorem genSEq_retag (e : SEq K) :
    genSEq P o' (retagTab o' T) e = (genSEq P o T e).map (retag o') := by
  simp only [genSEq, genL_retag P o o' T e.ls, gen_retag P o o' T e.r, knownFn_retagTab, bind_map, map_bind,
    emap_ok, lhsTerm_retag, retag]
  cases rhsIsCall (knownFn T) e.r <;> rfl

theorem genBlock_retag (b : List (SEq K)) :
    genBlock P o' (retagTab o' T) b = (genBlock P o T b).map (List.map (retag o')) := by
  induction b with
  | nil => rfl
  | cons e es ih => exact cons_map (genSEq_retag P o o' T e) ih

theorem genBlocks_retag (bs : List (List (SEq K))) :
    genBlocks P o' (retagTab o' T) bs = (genBlocks P o T bs).map (List.map (retag o')) := by
  induction bs with
  | nil => rfl
  | cons b bs ih =>
    simp only [genBlocks, genBlock_retag P o o' T b, ih, bind_map, map_bind, emap_ok, List.map_cons, retag,
      retags_ofList]

theorem genMEq_retag (ienv : String → Option Int) (q : MEq K) :
    genMEq P o' (retagTab o' T) ienv q = (genMEq P o T ienv q).map (retag o') := by
  cases q with
  | simple e => exact genSEq_retag P o o' T e
  | ifeq cs bs =>
    simp only [genMEq, genL_retag P o o' T cs, genBlocks_retag P o o' T bs, bind_map, map_bind, List.length_map,
      apply_ite (Except.map (retag o')), emap_ok, emap_error, foldFromLast_retag]
  | foreq i start stop step body =>
    simp only [genMEq, genBlock_retag P o o' T body]
    cases stop.eval ienv with
    | none => rfl
    | some hi =>
      simp only [pure_bind, bind_map, map_bind, apply_ite (Except.map (retag o')), emap_ok, emap_error, retag,
        retags_ofList]
      rfl

theorem genMEqs_retag (ienv : String → Option Int) (qs : List (MEq K)) :
    genMEqs P o' (retagTab o' T) ienv qs = (genMEqs P o T ienv qs).map (List.map (retag o')) := by
  induction qs with
  | nil => rfl
  | cons q qs ih => exact cons_map (genMEq_retag P o o' T ienv q) ih

theorem genDelayArgs_retag (ds : List (Nat × MExpr K × MExpr K)) :
    genDelayArgs P o' (retagTab o' T) ds =
      (genDelayArgs P o T ds).map (List.map fun p => (retag o' p.1, retag o' p.2)) := by
  induction ds with
  | nil => rfl
  | cons d rest ih =>
    simp only [genDelayArgs, gen_retag P o o' T d.2.1, gen_retag P o o' T d.2.2, ih, bind_map, map_bind, emap_ok,
      List.map_cons]

theorem genRhs_retag (b : List (String × MExpr K)) :
    genRhs P o' (retagTab o' T) b = (genRhs P o T b).map (retagVals o') := by
  induction b with
  | nil => rfl
  | cons p rest ih =>
    simp only [genRhs, gen_retag P o o' T p.2, ih, bind_map, map_bind, emap_ok, retagVals, List.map_cons]

theorem genRhsBlocks_retag (bs : List (List (String × MExpr K))) :
    genRhsBlocks P o' (retagTab o' T) bs = (genRhsBlocks P o T bs).map (List.map (retagVals o')) := by
  induction bs with
  | nil => rfl
  | cons b bs ih => exact cons_map (genRhs_retag P o o' T b) ih

theorem genStmt_retag (s : Stmt K) :
    genStmt P o' (retagTab o' T) s = (genStmt P o T s).map (retagVals o') := by
  cases s with
  | assign x e => simp only [genStmt, gen_retag P o o' T e, bind_map, map_bind, emap_ok, retagVals,
      List.map_cons, List.map_nil]
  | ifs cs bs =>
    have hfl : ∀ tbs : List (SymVals K), (tbs.map (retagVals o')).flatten = retagVals o' tbs.flatten :=
      fun _ => List.map_flatten.symm
    simp only [genStmt, genL_retag P o o' T cs, genRhsBlocks_retag P o o' T bs, bind_map, map_bind, hfl,
      expandBlocks_retag, sameLengths_retagCols, apply_ite (Except.map (retagVals o')), emap_ok, emap_error]
    simp only [retagVals, retagCols, List.map_map, Function.comp_def, mergeIf_retag]
  | «for» i start stop step body =>
    simp only [genStmt, genRhs_retag P o o' T body]
    cases stop.eval (fun _ => none) with
    | none => rfl
    | some hi =>
      simp only [pure_bind, bind_map, map_bind, apply_ite (Except.map (retagVals o')), emap_ok, emap_error,
        retagVals, retag, List.map_flatMap, List.map_map, Function.comp_def]

theorem genStmts_retag (ss : List (Stmt K)) : ∀ vals : SymVals K,
    genStmts P o' (retagTab o' T) ss (retagVals o' vals) = (genStmts P o T ss vals).map (retagVals o') := by
  induction ss with
  | nil => exact fun _ => rfl
  | cons s ss ih =>
    intro vals
    simp only [genStmts, genStmt_retag P o o' T s, bind_map, map_bind, applyAssigns_retag, ih]

theorem genFunc_retag (f : MFunc K) :
    genFunc P o' (retagTab o' T) f = (genFunc P o T f).map (retagF o') := by
  have key := genStmts_retag P o o' T f.body (f.inputs.map fun x => (x, .ref x []))
  rw [show retagVals o' (f.inputs.map fun x => (x, (.ref x [] : CTerm K))) = f.inputs.map fun x => (x, .ref x [])
    from List.map_map] at key
  simp only [genFunc, key, lookupAll_retag, bind_map, map_bind, emap_ok, retagF, retags_ofList]
  refine bind_congr fun vals => ?_
  refine bind_congr fun outs => ?_
  refine bind_congr fun tmps => ?_
  refine congrArg (fun ts => Except.ok (CFunc.mk f.inputs (CTerms.ofList ts))) ?_
  exact List.map_map.trans ((List.map_congr_left fun p _ => subst_retag o' tmps p.2).trans List.map_map.symm)

theorem genTable_retag (fs : List (MFunc K)) :
    genTable P o' fs = retagTab o' (genTable P o fs) := by
  induction fs with
  | nil => rfl
  | cons f rest ih =>
    funext n
    simp only [genTable, retagTab, ih]
    split
    · exact congrArg some (genFunc_retag P o o' (genTable P o rest) f)
    · rfl

theorem genDelayFunction_retag (m : MModel K) :
    genDelayFunction P o' m =
      (genDelayFunction P o m).map (fun f => ⟨o'.expand, f.outs.map (retag o')⟩) := by
  simp only [genDelayFunction, genTable_retag P o o' m.funcs, genDelayArgs_retag P o o', bind_map, map_bind,
    emap_ok, List.flatMap_map, List.map_flatMap, List.map_cons, List.map_nil]

end

end PymocaVerif.Gen
