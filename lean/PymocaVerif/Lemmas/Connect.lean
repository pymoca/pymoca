import PymocaVerif.Model.Connect
/-!
# Lemmas about the `Connect` model

Generic key type: `update` is the one ordered-set operation (first occurrences kept); the key order
of an association list and both de-duplication loops are instances of it.  The association list
after any edge list satisfies `MapInv`: its keys are the touched keys, the value of a key is the
(duplicate-free) connected component of the key in the edge graph, and all members of a component
hold the *same* list.

The concrete pass: `stepEdges_eq` is the pass in closed form, for either reading of
`flow_connections`: it raises for the first unsupported variable, otherwise it emits one potential
equation per potential-level edge, runs the store over the flow-level edges and pops the names of
`popped`.
-/
namespace PymocaVerif.Connect

section Generic
variable {κ : Type} [DecidableEq κ]

theorem mem_insertKey {s : List κ} {k x : κ} : x ∈ insertKey s k ↔ x ∈ s ∨ x = k := by
  unfold insertKey
  split
  · exact ⟨Or.inl, fun h => h.elim id (· ▸ ‹k ∈ s›)⟩
  · rw [List.mem_append, List.mem_singleton]

theorem nodup_insertKey {s : List κ} {k : κ} (h : s.Nodup) : (insertKey s k).Nodup := by
  unfold insertKey
  split
  · exact h
  · exact (List.perm_append_singleton k s).nodup_iff.2 (List.nodup_cons.2 ⟨‹k ∉ s›, h⟩)

theorem mem_update {s t : List κ} {x : κ} : x ∈ update s t ↔ x ∈ s ∨ x ∈ t := by
  induction t generalizing s with
  | nil => exact (or_iff_left List.not_mem_nil).symm
  | cons a t ih => rw [update, List.foldl_cons, ← update, ih, mem_insertKey, List.mem_cons, or_assoc]

theorem nodup_update {s t : List κ} (h : s.Nodup) : (update s t).Nodup := by
  induction t generalizing s with
  | nil => exact h
  | cons a t ih => exact ih (nodup_insertKey h)

theorem map_update {β : Type} [DecidableEq β] (f : κ → β) (s t : List κ)
    (hf : ∀ a ∈ update s t, ∀ b ∈ update s t, f a = f b → a = b) :
    (update s t).map f = update (s.map f) (t.map f) := by
  induction t generalizing s with
  | nil => rfl
  | cons a t ih =>
    have ha : a ∈ update s (a :: t) := mem_update.2 (Or.inr List.mem_cons_self)
    have hmem : f a ∈ s.map f ↔ a ∈ s := by
      refine ⟨fun hm => ?_, List.mem_map_of_mem⟩
      obtain ⟨b, hb, e⟩ := List.mem_map.1 hm
      exact hf b (mem_update.2 (Or.inl hb)) a ha e ▸ hb
    have hins : (insertKey s a).map f = insertKey (s.map f) (f a) := by
      unfold insertKey
      by_cases ha : a ∈ s
      · rw [if_pos ha, if_pos (hmem.2 ha)]
      · rw [if_neg ha, if_neg (mt hmem.1 ha), List.map_append, List.map_singleton]
    exact (ih (insertKey s a) hf).trans (congrArg (update · (t.map f)) hins)

theorem distinctSets_eq (m : FlowMap κ) : distinctSets m = update [] (m.map Prod.snd) := by
  rw [update, List.foldl_map]
  unfold distinctSets insertKey
  -- the two folds differ only in the `Decidable` instance of the membership test
  congr
  funext acc e
  congr

omit [DecidableEq κ] in
theorem Heap.distinctIds_eq (h : Heap κ) : h.distinctIds = update [] (h.fc.map Prod.snd) := by
  rw [update, List.foldl_map]
  rfl

theorem mem_distinctSets (m : FlowMap κ) (s : List κ) : s ∈ distinctSets m ↔ ∃ k, (k, s) ∈ m := by
  rw [distinctSets_eq, mem_update, List.mem_map, or_iff_right List.not_mem_nil]
  exact ⟨fun ⟨⟨k, _⟩, hm, e⟩ => ⟨k, e ▸ hm⟩, fun ⟨k, hk⟩ => ⟨_, hk, rfl⟩⟩

def keys {β : Type} (m : List (κ × β)) : List κ := m.map Prod.fst

theorem get?_cons {β : Type} (k' : κ) (s' : β) (m : List (κ × β)) (x : κ) :
    get? ((k', s') :: m) x = if k' = x then some s' else get? m x := rfl

theorem setEntry_cons {β : Type} (k' : κ) (s' : β) (m : List (κ × β)) (k : κ) (s : β) :
    setEntry ((k', s') :: m) k s = if k' = k then (k', s) :: m else (k', s') :: setEntry m k s := rfl

theorem insertKey_cons_self {s : List κ} {k : κ} : insertKey (k :: s) k = k :: s :=
  if_pos List.mem_cons_self

theorem insertKey_cons_of_ne {k' k : κ} (h : k' ≠ k) {s : List κ} :
    insertKey (k' :: s) k = k' :: insertKey s k := by
  unfold insertKey
  by_cases hk : k ∈ s
  · rw [if_pos hk, if_pos (List.mem_cons_of_mem _ hk)]
  · rw [if_neg hk, if_neg (fun hm => (List.mem_cons.1 hm).elim (Ne.symm h) hk)]
    rfl

theorem get?_setEntry {β : Type} (m : List (κ × β)) (k x : κ) (s : β) :
    get? (setEntry m k s) x = if x = k then some s else get? m x := by
  induction m with
  | nil => exact ite_congr (propext eq_comm) (fun _ => rfl) (fun _ => rfl)
  | cons e m ih =>
    obtain ⟨k', s'⟩ := e
    rw [setEntry_cons, get?_cons]
    by_cases hk : k' = k
    · subst hk
      rw [if_pos rfl, get?_cons]
      by_cases hx : x = k'
      · rw [if_pos hx, if_pos hx.symm]
      · rw [if_neg hx, if_neg (Ne.symm hx), if_neg (Ne.symm hx)]
    · rw [if_neg hk, get?_cons, ih]
      by_cases hx : x = k
      · rw [if_pos hx, if_pos hx, if_neg (hx ▸ hk)]
      · rw [if_neg hx, if_neg hx]

theorem keys_setEntry {β : Type} (m : List (κ × β)) (k : κ) (v : β) :
    keys (setEntry m k v) = insertKey (keys m) k := by
  induction m with
  | nil => rfl
  | cons e m ih =>
    obtain ⟨k', v'⟩ := e
    rw [setEntry_cons]
    by_cases hk : k' = k
    · rw [if_pos hk, hk]
      exact insertKey_cons_self.symm
    · rw [if_neg hk]
      exact (congrArg (k' :: ·) ih).trans (insertKey_cons_of_ne hk).symm

theorem get?_foldl_setEntry {β : Type} {ks : List κ} {m : List (κ × β)} {s : β} {x : κ} :
    get? (ks.foldl (fun m k => setEntry m k s) m) x = if x ∈ ks then some s else get? m x := by
  induction ks generalizing m with
  | nil => rfl
  | cons k ks ih =>
    rw [List.foldl_cons, ih, get?_setEntry]
    by_cases h1 : x ∈ ks
    · rw [if_pos h1, if_pos (List.mem_cons_of_mem _ h1)]
    · simp only [h1, List.mem_cons, or_false, if_false]

theorem get?_foldl_setEntry_eq_some {β : Type} {ks : List κ} {m : List (κ × β)} {v s : β} {x : κ} :
    get? (ks.foldl (fun m k => setEntry m k v) m) x = some s ↔
      (x ∈ ks ∧ s = v) ∨ (x ∉ ks ∧ get? m x = some s) := by
  rw [get?_foldl_setEntry]
  split
  · next h => rw [Option.some.injEq, eq_comm, or_iff_left (fun h' => h'.1 h), and_iff_right h]
  · next h => rw [or_iff_right (fun h' => h h'.1), and_iff_right h]

theorem keys_foldl_setEntry {β : Type} {ks : List κ} {m : List (κ × β)} {v : β} :
    keys (ks.foldl (fun m k => setEntry m k v) m) = update (keys m) ks := by
  induction ks generalizing m with
  | nil => rfl
  | cons k ks ih =>
    rw [List.foldl_cons, ih, keys_setEntry]
    rfl

theorem get?_eq_none_iff {β : Type} (m : List (κ × β)) (k : κ) : get? m k = none ↔ k ∉ keys m := by
  induction m with
  | nil => exact iff_of_true rfl List.not_mem_nil
  | cons e m ih =>
    obtain ⟨k', s'⟩ := e
    rw [get?_cons, keys, List.map_cons, List.mem_cons, not_or, ← keys, ← ih]
    by_cases hk : k' = k
    · rw [if_pos hk]
      exact iff_of_false nofun fun h => h.1 hk.symm
    · rw [if_neg hk, and_iff_right (Ne.symm hk)]

theorem get?_eq_some_iff {β : Type} {m : List (κ × β)} (h : (keys m).Nodup) {k : κ} {s : β} :
    get? m k = some s ↔ (k, s) ∈ m := by
  induction m with
  | nil => exact iff_of_false nofun List.not_mem_nil
  | cons e m ih =>
    obtain ⟨k', s'⟩ := e
    obtain ⟨hk', hm⟩ := List.nodup_cons.1 h
    rw [get?_cons, List.mem_cons, Prod.mk.injEq]
    by_cases hk : k' = k
    · subst hk
      rw [if_pos rfl, Option.some.injEq, eq_comm, eq_self_iff_true, true_and]
      exact (or_iff_left fun (hin : (k', s) ∈ m) => hk' (List.mem_map.2 ⟨_, hin, rfl⟩)).symm
    · rw [if_neg hk, ih hm]
      exact (or_iff_right fun e => hk e.1.symm).symm

theorem get?_map_val {β γ : Type} (f : β → γ) (m : List (κ × β)) (k : κ) :
    get? (m.map fun e => (e.1, f e.2)) k = (get? m k).map f := by
  induction m with
  | nil => rfl
  | cons e m ih =>
    rw [List.map_cons, get?_cons, get?_cons, ih]
    split <;> rfl

omit [DecidableEq κ] in
theorem keys_map_val {β γ : Type} (f : β → γ) (m : List (κ × β)) :
    keys (m.map fun e => (e.1, f e.2)) = keys m :=
  List.map_map.trans rfl

theorem assoc_ext {β : Type} (m1 m2 : List (κ × β)) (hk : keys m1 = keys m2) (nd : (keys m1).Nodup)
    (hg : ∀ k, get? m1 k = get? m2 k) : m1 = m2 := by
  induction m1 generalizing m2 with
  | nil => exact (List.map_eq_nil_iff.1 hk.symm).symm
  | cons e1 m1 ih =>
    obtain ⟨k1, v1⟩ := e1
    cases m2 with
    | nil => cases hk
    | cons e2 m2 =>
      obtain ⟨k2, v2⟩ := e2
      obtain ⟨rfl, hks⟩ := List.cons.inj (show k1 :: keys m1 = k2 :: keys m2 from hk)
      obtain ⟨h1, nd⟩ := List.nodup_cons.1 nd
      have hv := hg k1
      rw [get?_cons, get?_cons, if_pos rfl, if_pos rfl] at hv
      cases hv
      refine congrArg _ (ih m2 hks nd fun k => ?_)
      by_cases hkk : k1 = k
      · rw [(get?_eq_none_iff m1 k).2 (hkk ▸ h1), (get?_eq_none_iff m2 k).2 (hks ▸ hkk ▸ h1)]
      · have := hg k
        rwa [get?_cons, get?_cons, if_neg hkk, if_neg hkk] at this

theorem mem_getD {m : FlowMap κ} {l x : κ} : x ∈ getD m l ↔ ∃ s, get? m l = some s ∧ x ∈ s := by
  unfold getD
  cases get? m l with
  | none => exact iff_of_false List.not_mem_nil nofun
  | some s => exact ⟨fun h => ⟨s, rfl, h⟩, fun ⟨_, e, h⟩ => Option.some.inj e ▸ h⟩

theorem mem_mergedSet {m : FlowMap κ} {l r x : κ} :
    x ∈ mergedSet m l r ↔ (x ∈ getD m l ∨ x = l) ∨ (x ∈ getD m r ∨ x = r) := by
  rw [mergedSet, mem_insertKey, mem_insertKey, mem_update, or_assoc, or_or_or_comm]

theorem get?_connectStep (m : FlowMap κ) (l r x : κ) :
    get? (connectStep m l r) x =
      if x ∈ mergedSet m l r then some (mergedSet m l r) else get? m x :=
  get?_foldl_setEntry

theorem get?_connectStep_eq_some (m : FlowMap κ) (l r x : κ) (s : List κ) :
    get? (connectStep m l r) x = some s ↔
      (x ∈ mergedSet m l r ∧ s = mergedSet m l r) ∨ (x ∉ mergedSet m l r ∧ get? m x = some s) :=
  get?_foldl_setEntry_eq_some

theorem keys_connectStep (m : FlowMap κ) (l r : κ) :
    keys (connectStep m l r) = update (keys m) (mergedSet m l r) :=
  keys_foldl_setEntry

/-- Equivalence closure of the edge list (reflexive on every key). -/
inductive Conn (es : List (κ × κ)) : κ → κ → Prop
  | refl (a : κ) : Conn es a a
  | edge {a b : κ} : (a, b) ∈ es → Conn es a b
  | symm {a b : κ} : Conn es a b → Conn es b a
  | trans {a b c : κ} : Conn es a b → Conn es b c → Conn es a c

/-- The key is an end of some edge. -/
def Touched (es : List (κ × κ)) (k : κ) : Prop := ∃ e ∈ es, e.1 = k ∨ e.2 = k

end Generic

section Graph
variable {κ : Type} {es : List (κ × κ)}

theorem Conn.equivalence (es : List (κ × κ)) : Equivalence (Conn es) := ⟨.refl, .symm, .trans⟩

theorem Conn.least {r : κ → κ → Prop} (hr : Equivalence r) (h : ∀ p ∈ es, r p.1 p.2) {a b : κ}
    (c : Conn es a b) : r a b := by
  induction c with
  | refl a => exact hr.refl a
  | edge he => exact h _ he
  | symm _ ih => exact hr.symm ih
  | trans _ _ ih1 ih2 => exact hr.trans ih1 ih2

theorem Conn.mono {es' : List (κ × κ)} (h : ∀ e, e ∈ es → e ∈ es') {a b : κ}
    (c : Conn es a b) : Conn es' a b :=
  c.least (Conn.equivalence es') fun p hp => .edge (h p hp)

theorem touched_append (es : List (κ × κ)) (l r k : κ) :
    Touched (es ++ [(l, r)]) k ↔ Touched es k ∨ k = l ∨ k = r := by
  simp only [Touched, List.mem_append, List.mem_singleton, or_and_right, exists_or, exists_eq_left,
    eq_comm]

theorem conn_append_iff (es : List (κ × κ)) (l r a b : κ) :
    Conn (es ++ [(l, r)]) a b ↔
      Conn es a b ∨ ((Conn es l a ∨ Conn es r a) ∧ (Conn es l b ∨ Conn es r b)) := by
  have up : ∀ {x y}, Conn es x y → Conn (es ++ [(l, r)]) x y :=
    Conn.mono fun e => List.mem_append_left _
  have lr : Conn (es ++ [(l, r)]) l r := .edge (List.mem_append_right _ (List.mem_singleton.2 rfl))
  have closed : ∀ {x y}, Conn es x y → Conn es l x ∨ Conn es r x → Conn es l y ∨ Conn es r y :=
    fun c => Or.imp (·.trans c) (·.trans c)
  constructor
  · refine Conn.least (r := fun a b => Conn es a b ∨
      ((Conn es l a ∨ Conn es r a) ∧ (Conn es l b ∨ Conn es r b)))
      ⟨fun a => .inl (.refl a), ?_, ?_⟩ fun p hp => ?_
    · rintro a b (c | ⟨ha, hb⟩)
      · exact .inl c.symm
      · exact .inr ⟨hb, ha⟩
    · rintro a b c (c1 | ⟨ha, hb⟩) (c2 | ⟨hb', hc⟩)
      · exact .inl (c1.trans c2)
      · exact .inr ⟨closed c1.symm hb', hc⟩
      · exact .inr ⟨ha, closed c2 hb⟩
      · exact .inr ⟨ha, hc⟩
    · rcases List.mem_append.1 hp with h | h
      · exact .inl (.edge h)
      · cases List.mem_singleton.1 h
        exact .inr ⟨.inl (.refl _), .inr (.refl _)⟩
  · have toL : ∀ {x}, Conn es l x ∨ Conn es r x → Conn (es ++ [(l, r)]) l x :=
      fun h => h.elim up fun c => lr.trans (up c)
    rintro (c | ⟨ha, hb⟩)
    · exact up c
    · exact (toL ha).symm.trans (toL hb)

end Graph

section Generic
variable {κ : Type} [DecidableEq κ]

set_option linter.unusedSectionVars false in
theorem Conn.touched {es : List (κ × κ)} {a b : κ} (c : Conn es a b) :
    a = b ∨ (Touched es a ∧ Touched es b) := by
  refine c.least (r := fun a b => a = b ∨ (Touched es a ∧ Touched es b))
    ⟨fun _ => .inl rfl, ?_, ?_⟩ fun p hp => .inr ⟨⟨p, hp, .inl rfl⟩, p, hp, .inr rfl⟩
  · rintro a b (rfl | ⟨ha, hb⟩)
    · exact .inl rfl
    · exact .inr ⟨hb, ha⟩
  · rintro a b c (rfl | ⟨ha, hb⟩) h2
    · exact h2
    · rcases h2 with rfl | ⟨_, hc⟩
      · exact .inr ⟨ha, hb⟩
      · exact .inr ⟨ha, hc⟩

/-- What the association list looks like after processing the edges `es`. -/
structure MapInv (es : List (κ × κ)) (m : FlowMap κ) : Prop where
  keysNodup : (keys m).Nodup
  isKey : ∀ k, (∃ s, get? m k = some s) ↔ Touched es k
  nodup : ∀ k s, get? m k = some s → s.Nodup
  shared : ∀ k s k', get? m k = some s → k' ∈ s → get? m k' = some s
  comp : ∀ k s, get? m k = some s → ∀ k', k' ∈ s ↔ Conn es k k'

theorem MapInv.empty : MapInv ([] : List (κ × κ)) ([] : FlowMap κ) where
  keysNodup := List.nodup_nil
  isKey _ := iff_of_false nofun nofun
  nodup _ _ := nofun
  shared _ _ _ := nofun
  comp _ _ := nofun

namespace MapInv
variable {es : List (κ × κ)} {m : FlowMap κ} (inv : MapInv es m)
include inv

theorem nodup_getD (l : κ) : (getD m l).Nodup := by
  unfold getD
  cases h : get? m l with
  | none => exact List.nodup_nil
  | some s => exact inv.nodup l s h

theorem mem_getD_or (l x : κ) : x ∈ getD m l ∨ x = l ↔ Conn es l x := by
  rw [mem_getD]
  constructor
  · rintro (⟨s, hs, hx⟩ | rfl)
    · exact (inv.comp l s hs x).1 hx
    · exact .refl x
  · intro c
    rcases c.touched with e | ⟨tl, _⟩
    · exact .inr e.symm
    · obtain ⟨s, hs⟩ := (inv.isKey l).2 tl
      exact .inl ⟨s, hs, (inv.comp l s hs x).2 c⟩

theorem mem_mergedSet {l r x : κ} : x ∈ mergedSet m l r ↔ Conn es l x ∨ Conn es r x := by
  rw [Connect.mem_mergedSet, inv.mem_getD_or, inv.mem_getD_or]

theorem conn_step (l r a b : κ) :
    Conn (es ++ [(l, r)]) a b ↔ Conn es a b ∨ (a ∈ mergedSet m l r ∧ b ∈ mergedSet m l r) := by
  rw [conn_append_iff, inv.mem_mergedSet, inv.mem_mergedSet]

theorem mergedSet_closed {l r a b : κ} (c : Conn es a b) (ha : a ∈ mergedSet m l r) :
    b ∈ mergedSet m l r :=
  inv.mem_mergedSet.2 ((inv.mem_mergedSet.1 ha).imp (·.trans c) (·.trans c))

theorem step (l r : κ) : MapInv (es ++ [(l, r)]) (connectStep m l r) := by
  have hl : l ∈ mergedSet m l r := inv.mem_mergedSet.2 (.inl (.refl l))
  have hr : r ∈ mergedSet m l r := inv.mem_mergedSet.2 (.inr (.refl r))
  have key : ∀ k, k ∈ mergedSet m l r → Touched es k ∨ k = l ∨ k = r := fun k hk =>
    (inv.mem_mergedSet.1 hk).elim
      (fun c => c.touched.elim (fun e => .inr (.inl e.symm)) fun t => .inl t.2)
      (fun c => c.touched.elim (fun e => .inr (.inr e.symm)) fun t => .inl t.2)
  refine ⟨?_, fun k => ?_, fun k s => ?_, fun k s k' => ?_, fun k s => ?_⟩
  · rw [keys_connectStep]
    exact nodup_update inv.keysNodup
  · rw [touched_append, get?_connectStep]
    split
    · next hk => exact iff_of_true ⟨_, rfl⟩ (key k hk)
    · next hk =>
      rw [inv.isKey, or_iff_left]
      rintro (rfl | rfl)
      · exact hk hl
      · exact hk hr
  · rw [get?_connectStep_eq_some]
    rintro (⟨_, rfl⟩ | ⟨_, hs⟩)
    · exact nodup_insertKey (nodup_insertKey (nodup_update (inv.nodup_getD l)))
    · exact inv.nodup k s hs
  · rw [get?_connectStep_eq_some, get?_connectStep_eq_some]
    rintro (⟨_, rfl⟩ | ⟨hk, hs⟩) hk'
    · exact .inl ⟨hk', rfl⟩
    · -- `k'` is in the old component of `k`, which the merged set does not meet
      have c := (inv.comp k s hs k').1 hk'
      exact .inr ⟨fun h => hk (inv.mergedSet_closed c.symm h), inv.shared k s k' hs hk'⟩
  · rw [get?_connectStep_eq_some]
    rintro (⟨hk, rfl⟩ | ⟨hk, hs⟩) k'
    · rw [inv.conn_step]
      exact ⟨fun h => .inr ⟨hk, h⟩, fun h => h.elim (inv.mergedSet_closed · hk) (·.2)⟩
    · rw [inv.conn_step, inv.comp k s hs]
      exact ⟨.inl, fun h => h.elim id fun h => absurd h.1 hk⟩

end MapInv

theorem foldl_append_inv {ε σ : Type} {P : List ε → σ → Prop} {f : σ → ε → σ}
    (step : ∀ es s e, P es s → P (es ++ [e]) (f s e)) {es : List ε} {s : σ} (h : P es s)
    (es' : List ε) : P (es ++ es') (es'.foldl f s) := by
  induction es' generalizing es s with
  | nil => rwa [List.append_nil]
  | cons e es' ih =>
    have := ih (step es s e h)
    rwa [List.append_assoc] at this

theorem MapInv.connectAll {es : List (κ × κ)} {m : FlowMap κ} (inv : MapInv es m)
    (es2 : List (κ × κ)) : MapInv (es ++ es2) (connectAll m es2) :=
  foldl_append_inv (fun _ _ e i => i.step e.1 e.2) inv es2

theorem MapInv.of_run (es : List (κ × κ)) : MapInv es (Connect.connectAll [] es) :=
  (MapInv.empty (κ := κ)).connectAll es

theorem connectAll_append (m : FlowMap κ) (a b : List (κ × κ)) :
    connectAll m (a ++ b) = connectAll (connectAll m a) b :=
  List.foldl_append

/-- A duplicate-free list that is exactly the connected component of a touched key. -/
def IsComponent (es : List (κ × κ)) (S : List κ) : Prop :=
  S.Nodup ∧ ∃ k0, Touched es k0 ∧ ∀ k, k ∈ S ↔ Conn es k0 k

theorem MapInv.sets {es : List (κ × κ)} {m : FlowMap κ} (inv : MapInv es m) :
    (∀ S ∈ distinctSets m, IsComponent es S) ∧
    (∀ k, Touched es k → ∃ S ∈ distinctSets m, k ∈ S) ∧
    (distinctSets m).Pairwise (fun S T => ∀ k, k ∈ S → k ∉ T) := by
  have mem : ∀ S, S ∈ distinctSets m ↔ ∃ k, get? m k = some S := fun S => by
    simp only [mem_distinctSets, get?_eq_some_iff inv.keysNodup]
  refine ⟨fun S hS => ?_, fun k hk => ?_, ?_⟩
  · obtain ⟨k, hg⟩ := (mem S).1 hS
    exact ⟨inv.nodup k S hg, k, (inv.isKey k).1 ⟨S, hg⟩, inv.comp k S hg⟩
  · obtain ⟨S, hS⟩ := (inv.isKey k).2 hk
    exact ⟨S, (mem S).2 ⟨k, hS⟩, (inv.comp k S hS k).2 (.refl k)⟩
  · -- two distinct sets with a common key `k` would both be the value at `k`
    have nd : (distinctSets m).Nodup := distinctSets_eq m ▸ nodup_update List.nodup_nil
    refine nd.imp_of_mem fun {S T} hS hT hne k hkS hkT => hne ?_
    obtain ⟨k1, h1⟩ := (mem S).1 hS
    obtain ⟨k2, h2⟩ := (mem T).1 hT
    exact Option.some.inj ((inv.shared k1 S k h1 hkS).symm.trans (inv.shared k2 T k h2 hkT))

theorem MapInv.forall_sets {es : List (κ × κ)} {m : FlowMap κ} (inv : MapInv es m)
    {P : List κ → Prop} (hP : ∀ S T, S.Perm T → P S → P T) :
    (∀ S ∈ distinctSets m, P S) ↔ ∀ S, IsComponent es S → P S := by
  obtain ⟨comp, cover, _⟩ := inv.sets
  refine ⟨fun h T ⟨ndT, k0, t0, hT⟩ => ?_, fun h S hS => h S (comp S hS)⟩
  obtain ⟨S, hS, hk0⟩ := cover k0 t0
  obtain ⟨ndS, k1, _, h1⟩ := comp S hS
  have c : Conn es k1 k0 := (h1 k0).1 hk0
  refine hP S T ((List.perm_ext_iff_of_nodup ndS ndT).2 fun k => ?_) (h S hS)
  rw [h1, hT]
  exact ⟨c.symm.trans, c.trans⟩

theorem eq_along_edges_iff {α β : Type} (es : List (α × α)) (σ : α → β) :
    (∀ p ∈ es, σ p.1 = σ p.2) ↔ ∀ a b, Conn es a b → σ a = σ b :=
  ⟨fun h _ _ => Conn.least (r := fun a b => σ a = σ b) ⟨fun _ => rfl, Eq.symm, Eq.trans⟩ h,
    fun h p hp => h p.1 p.2 (.edge hp)⟩

end Generic

/-- Flow-level edges contributed by the variables `vs` of the connector class of clause `e`. -/
def Edge.flowOf (e : Edge) (vs : List CVar) : List (Key × Key) :=
  (vs.filter fun v => classify v.prefixes = .flow).map fun v =>
    ((varName e.lname v.name, e.linner), (varName e.rname v.name, e.rinner))

/-- Potential-level edges (pairs of flat variable names) contributed by `vs`. -/
def Edge.potOf (e : Edge) (vs : List CVar) : List (String × String) :=
  (vs.filter fun v => classify v.prefixes = .pot).map fun v =>
    (varName e.lname v.name, varName e.rname v.name)

/-- All flow-level edges of the flat class, in processing order. -/
def flowEdges (es : List Edge) : List (Key × Key) := es.flatMap fun e => e.flowOf e.vars
/-- All potential-level edges of the flat class, in processing order. -/
def potEdges (es : List Edge) : List (String × String) := es.flatMap fun e => e.potOf e.vars

/-- No connector variable has a prefix list the code rejects. -/
def Supported (es : List Edge) : Prop := ∀ e ∈ es, ∀ v ∈ e.vars, classify v.prefixes ≠ .bad

theorem popAll_append (d a b : List String) : popAll d (a ++ b) = popAll (popAll d a) b :=
  List.foldl_append

theorem mem_popAll (d ns : List String) (n : String) : n ∈ popAll d ns ↔ n ∈ d ∧ n ∉ ns := by
  induction ns generalizing d with
  | nil => exact (and_iff_left List.not_mem_nil).symm
  | cons x ns ih =>
    rw [popAll, List.foldl_cons, ← popAll, ih, popName, List.mem_filter, List.mem_cons, not_or,
      and_assoc, decide_eq_true_eq]

/-- Names taken off the unconnected list by the variables `vs` of clause `e`. -/
def Edge.popsOf (pol : PopPolicy) (e : Edge) (vs : List CVar) : List String :=
  (vs.filter fun v => classify v.prefixes = .flow).flatMap fun v =>
    popsFor pol e (varName e.lname v.name) (varName e.rname v.name)

/-- All names taken off the unconnected list. -/
def popped (pol : PopPolicy) (es : List Edge) : List String := es.flatMap fun e => e.popsOf pol e.vars

/-- The exception a stretch of connector variables makes the pass raise: that of the first
    variable with unsupported prefixes. -/
def badIn (vs : List CVar) : Option Err :=
  vs.findSome? fun v =>
    if classify v.prefixes = .bad then some (.unsupportedPrefixes v.name v.prefixes) else none

/-- The exception of the whole pass, if any. -/
def firstBad (es : List Edge) : Option Err := es.findSome? fun e => badIn e.vars

theorem firstBad_eq_none (es : List Edge) : firstBad es = none ↔ Supported es := by
  simp only [firstBad, badIn, List.findSome?_eq_none_iff, ite_eq_right_iff, reduceCtorEq, Supported,
    imp_false]

/-- The state after a stretch of the pass that emitted the potential equations of `pots`,
    connected the flow-level edges `flows` and popped the names `pops`. -/
def St.advance {σ : Type} (S : Store σ) (st : St σ) (pots : List (String × String))
    (flows : List (Key × Key)) (pops : List String) : St σ :=
  { eqs := st.eqs ++ pots.map fun p => .pot p.1 p.2
    fc := flows.foldl (fun s p => S.step s p.1 p.2) st.fc
    disc := popAll st.disc pops }

theorem St.advance_nil {σ : Type} (S : Store σ) (st : St σ) : st.advance S [] [] [] = st := by
  simp only [advance, List.map_nil, List.append_nil, List.foldl_nil, popAll]

theorem St.advance_advance {σ : Type} (S : Store σ) (st : St σ) (p p' f f' q q') :
    (st.advance S p f q).advance S p' f' q' = st.advance S (p ++ p') (f ++ f') (q ++ q') := by
  simp only [advance, List.map_append, List.append_assoc, List.foldl_append, popAll_append]

theorem stepVars_eq {σ : Type} (S : Store σ) (pol : PopPolicy) (e : Edge) (vs : List CVar)
    (st : St σ) :
    stepVars S pol e st vs = match badIn vs with
      | some x => .error x
      | none => .ok (st.advance S (e.potOf vs) (e.flowOf vs) (e.popsOf pol vs)) := by
  induction vs generalizing st with
  | nil => exact congrArg Except.ok (St.advance_nil S st).symm
  | cons v vs ih =>
    -- the kind of `v` decides which of the three lists it heads, or that it is the exception
    rw [stepVars, stepVar]
    cases hc : classify v.prefixes <;>
      simp only [ih, hc,
        -- how `badIn` and the three lists split at `v :: vs`, given the kind of `v`
        badIn, Edge.potOf, Edge.flowOf, Edge.popsOf, List.findSome?_cons, List.filter_cons,
        reduceCtorEq, decide_false, decide_true, if_false, if_true, Bool.false_eq_true,
        List.map_cons, List.flatMap_cons,
        -- advancing the state `stepVar` made is advancing `st` by a list with one more in front
        St.advance, List.foldl_cons, List.append_assoc, List.singleton_append, popAll_append]

theorem stepEdges_eq {σ : Type} (S : Store σ) (pol : PopPolicy) (es : List Edge) (st : St σ) :
    stepEdges S pol st es = match firstBad es with
      | some x => .error x
      | none => .ok (st.advance S (potEdges es) (flowEdges es) (popped pol es)) := by
  induction es generalizing st with
  | nil => exact congrArg Except.ok (St.advance_nil S st).symm
  | cons e es ih =>
    rw [stepEdges, stepVars_eq, firstBad, List.findSome?_cons, ← firstBad, potEdges, flowEdges,
      popped, List.flatMap_cons, List.flatMap_cons, List.flatMap_cons, ← potEdges, ← flowEdges,
      ← popped]
    cases badIn e.vars with
    | some x => rfl
    | none => exact (ih _).trans (by rw [St.advance_advance])

/-- The store the pass ends with when nothing is rejected. -/
def Store.run {σ : Type} (S : Store σ) (inp : Input) : σ :=
  (flowEdges inp.edges).foldl (fun s p => S.step s p.1 p.2) S.init

theorem expandWith_eq {σ : Type} (S : Store σ) (inp : Input) :
    expandWith S inp = match firstBad inp.edges with
      | some x => .error x
      | none => .ok ((potEdges inp.edges).map (fun p => Eqn.pot p.1 p.2) ++
          (S.sets (S.run inp)).map sumEqn ++
          (popAll inp.flowSyms (popped inp.policy inp.edges)).map .zero) := by
  rw [expandWith, stepEdges_eq]
  cases firstBad inp.edges <;> rfl

theorem finalSetsWith_eq {σ : Type} (S : Store σ) (inp : Input) :
    finalSetsWith S inp = match firstBad inp.edges with
      | some x => .error x
      | none => .ok (S.sets (S.run inp)) := by
  rw [finalSetsWith, stepEdges_eq]
  cases firstBad inp.edges <;> rfl

theorem expandWith_congr {σ₁ σ₂ : Type} (S₁ : Store σ₁) (S₂ : Store σ₂) (inp : Input)
    (h : S₁.sets (S₁.run inp) = S₂.sets (S₂.run inp)) :
    expandWith S₁ inp = expandWith S₂ inp ∧ finalSetsWith S₁ inp = finalSetsWith S₂ inp := by
  rw [expandWith_eq, expandWith_eq, finalSetsWith_eq, finalSetsWith_eq, h]
  exact ⟨rfl, rfl⟩

theorem eq_of_match_eq_ok {α : Type} {o : Option Err} {a b : α}
    (h : (match o with | some x => Except.error x | none => Except.ok a) = .ok b) : a = b := by
  cases o with
  | some x => cases h
  | none => exact Except.ok.inj h

theorem expand_ok {inp : Input} {eqs : List Eqn} (h : expand inp = .ok eqs) :
    eqs = (potEdges inp.edges).map (fun p => Eqn.pot p.1 p.2) ++
      (distinctSets (connectAll [] (flowEdges inp.edges))).map sumEqn ++
      (popAll inp.flowSyms (popped inp.policy inp.edges)).map .zero :=
  (eq_of_match_eq_ok ((expandWith_eq valueStore inp).symm.trans h)).symm

theorem finalSets_ok {inp : Input} {sets : List (List Key)} (h : finalSets inp = .ok sets) :
    sets = distinctSets (connectAll [] (flowEdges inp.edges)) :=
  (eq_of_match_eq_ok ((finalSetsWith_eq valueStore inp).symm.trans h)).symm

/-- A flow variable of a top-level connector occurs in a clause of the top class. -/
def TouchedTop (es : List Edge) (f : String) : Prop :=
  ∃ e ∈ es, ∃ v ∈ e.vars, classify v.prefixes = .flow ∧
    ((e.ltop = true ∧ f = varName e.lname v.name) ∨ (e.rtop = true ∧ f = varName e.rname v.name))

theorem touched_flowEdges {es : List Edge} {f : String} {b : Bool} :
    Touched (flowEdges es) (f, b) ↔
      ∃ e ∈ es, ∃ v ∈ e.vars, classify v.prefixes = .flow ∧
        ((f = varName e.lname v.name ∧ b = e.linner) ∨ (f = varName e.rname v.name ∧ b = e.rinner)) := by
  simp only [Touched, flowEdges, Edge.flowOf, List.mem_flatMap, List.mem_map, List.mem_filter,
    decide_eq_true_eq]
  constructor
  · rintro ⟨_, ⟨e, he, v, ⟨hv, hc⟩, rfl⟩, hk⟩
    exact ⟨e, he, v, hv, hc, hk.imp (fun h => Prod.mk.inj h.symm) fun h => Prod.mk.inj h.symm⟩
  · rintro ⟨e, he, v, hv, hc, hk⟩
    exact ⟨_, ⟨e, he, v, ⟨hv, hc⟩, rfl⟩, hk.imp (fun h => Prod.ext h.1.symm h.2.symm)
      fun h => Prod.ext h.1.symm h.2.symm⟩

theorem mem_popped (pol : PopPolicy) (es : List Edge) (f : String) :
    f ∈ popped pol es ↔ ∃ e ∈ es, ∃ v ∈ e.vars, classify v.prefixes = .flow ∧
      f ∈ popsFor pol e (varName e.lname v.name) (varName e.rname v.name) := by
  simp only [popped, Edge.popsOf, List.mem_flatMap, List.mem_filter, decide_eq_true_eq, and_assoc]

theorem mem_popped_byName (es : List Edge) (f : String) :
    f ∈ popped .byName es ↔ ∃ b, Touched (flowEdges es) (f, b) := by
  simp only [mem_popped, touched_flowEdges, popsFor, List.mem_cons, List.not_mem_nil, or_false]
  constructor
  · rintro ⟨e, he, v, hv, hc, h | h⟩
    · exact ⟨_, e, he, v, hv, hc, .inl ⟨h, rfl⟩⟩
    · exact ⟨_, e, he, v, hv, hc, .inr ⟨h, rfl⟩⟩
  · rintro ⟨b, e, he, v, hv, hc, h⟩
    exact ⟨e, he, v, hv, hc, h.imp And.left And.left⟩

theorem mem_popped_byFace (es : List Edge) (f : String) :
    f ∈ popped .byFace es ↔ Touched (flowEdges es) (f, true) ∨ TouchedTop es f := by
  simp only [mem_popped, touched_flowEdges, TouchedTop, popsFor, List.mem_append,
    List.mem_ite_nil_right, List.mem_singleton, Bool.or_eq_true]
  constructor
  · rintro ⟨e, he, v, hv, hc, ⟨hi | ht, h⟩ | ⟨hi | ht, h⟩⟩
    · exact .inl ⟨e, he, v, hv, hc, .inl ⟨h, hi.symm⟩⟩
    · exact .inr ⟨e, he, v, hv, hc, .inl ⟨ht, h⟩⟩
    · exact .inl ⟨e, he, v, hv, hc, .inr ⟨h, hi.symm⟩⟩
    · exact .inr ⟨e, he, v, hv, hc, .inr ⟨ht, h⟩⟩
  · rintro (⟨e, he, v, hv, hc, ⟨h, hi⟩ | ⟨h, hi⟩⟩ | ⟨e, he, v, hv, hc, ⟨ht, h⟩ | ⟨ht, h⟩⟩)
    · exact ⟨e, he, v, hv, hc, .inl ⟨.inl hi.symm, h⟩⟩
    · exact ⟨e, he, v, hv, hc, .inr ⟨.inl hi.symm, h⟩⟩
    · exact ⟨e, he, v, hv, hc, .inl ⟨.inr ht, h⟩⟩
    · exact ⟨e, he, v, hv, hc, .inr ⟨.inr ht, h⟩⟩

theorem TouchedTop.touched {es : List Edge} {f : String} (h : TouchedTop es f) :
    ∃ b, Touched (flowEdges es) (f, b) := by
  obtain ⟨e, he, v, hv, hc, ⟨_, h⟩ | ⟨_, h⟩⟩ := h
  · exact ⟨_, touched_flowEdges.2 ⟨e, he, v, hv, hc, .inl ⟨h, rfl⟩⟩⟩
  · exact ⟨_, touched_flowEdges.2 ⟨e, he, v, hv, hc, .inr ⟨h, rfl⟩⟩⟩

/-- In a single-level class (every clause sits in the top class) an end that is not an inside
    connector is a top-level connector. -/
theorem TouchedTop.of_top_class {es : List Edge} (hes : ∀ e ∈ es, e.pre.isEmpty = true) {f : String}
    (h : Touched (flowEdges es) (f, false)) : TouchedTop es f := by
  obtain ⟨e, he, v, hv, hc, q⟩ := touched_flowEdges.1 h
  have top : ∀ p : List String, decide (p.length > 1) = false →
      (e.pre.isEmpty && decide (p.length ≤ 1)) = true := fun p hp => by
    rw [hes e he, Bool.true_and, decide_eq_true_eq]
    exact Nat.le_of_not_lt (of_decide_eq_false hp)
  exact ⟨e, he, v, hv, hc, q.imp (fun ⟨hf, hb⟩ => ⟨top e.l hb.symm, hf⟩)
    fun ⟨hf, hb⟩ => ⟨top e.r hb.symm, hf⟩⟩

theorem touched_key_iff (es : List (Key × Key)) (n : String) :
    (∀ b, ¬ Touched es (n, b)) ↔ ∀ p ∈ es, p.1.1 ≠ n ∧ p.2.1 ≠ n := by
  unfold Touched
  constructor
  · exact fun h p hp => ⟨fun q => h p.1.2 ⟨p, hp, .inl (Prod.ext q rfl)⟩,
      fun q => h p.2.2 ⟨p, hp, .inr (Prod.ext q rfl)⟩⟩
  · rintro h b ⟨p, hp, q | q⟩
    · exact (h p hp).1 (congrArg Prod.fst q)
    · exact (h p hp).2 (congrArg Prod.fst q)

end PymocaVerif.Connect
