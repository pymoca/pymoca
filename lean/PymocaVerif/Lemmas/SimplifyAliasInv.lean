import PymocaVerif.Lemmas.SimplifyBase
/-!
# Simplify: the alias relation as `detect_aliases` needs it

The invariant `WF` of `AliasRelation.add` is list-level (members of a class share *the same* list; the class
of `-x` is the image of the class of `x`): it is C17's `WFR` plus that shape (`WF.wfr`, `WF.of_wfr`), and what
does not speak of the lists comes from C17's lemma files.  On it rest the count `elimCount` (one more
non-canonical name per effective `add`) and, for a later pass of iterative simplification, the names handled
before (`Ext`, `handledB`, `elim_now_count`).
-/
set_option linter.unusedSectionVars false
namespace PymocaVerif.Simplify
open PymocaVerif.AliasRel

theorem tog_inj' {u v : SName} (h : tog u = tog v) : u = v := tog_inj h

theorem mem_map_tog {A : List SName} {x : SName} : x ∈ A.map tog ↔ tog x ∈ A := by
  constructor
  · intro h
    obtain ⟨y, hy, rfl⟩ := List.mem_map.1 h
    rwa [tog_tog]
  · exact fun h => List.mem_map.2 ⟨tog x, h, tog_tog x⟩

theorem map_tog_map_tog (A : List SName) : (A.map tog).map tog = A := by
  simp [List.map_map, Function.comp_def]

theorem nodup_map_tog (l : List SName) (h : l.Nodup) : (l.map tog).Nodup :=
  List.Pairwise.map tog (fun _ _ hab e => hab (tog_inj e)) h

theorem exists_ne_of_nodup : ∀ {A : List SName}, A.Nodup → 2 ≤ A.length → ∀ x, ∃ y, y ∈ A ∧ y ≠ x
  | [], _, hl, _ => absurd hl (by decide)
  | [_], _, hl, _ => absurd hl (by simp)
  | y :: z :: _, hn, _, x =>
    exists_mem_ne List.mem_cons_self (List.mem_cons_of_mem _ List.mem_cons_self)
      (fun e => (List.nodup_cons.1 hn).1 (by rw [e]; exact List.mem_cons_self)) x

theorem two_le_length_of_mem_ne : ∀ {A : List SName} {x y : SName}, x ∈ A → y ∈ A → y ≠ x → 2 ≤ A.length
  | [], _, _, hx, _, _ => nomatch hx
  | [_], _, _, hx, hy, hne =>
    absurd ((List.mem_singleton.1 hy).trans (List.mem_singleton.1 hx).symm) hne
  | _ :: _ :: _, _, _, _, _, _ => Nat.le_add_left 2 _

/-- the invariant of `AliasRelation`: classes are shared lists closed under negation, every class
    of more than one name has one canonical member recorded for all its members, and
    `canonical_variables` lists exactly the canonical names -/
structure WF (s : AR) : Prop where
  self : ∀ x A, s.al x = some A → x ∈ A
  shared : ∀ x A y, s.al x = some A → y ∈ A → s.al y = some A
  neg : ∀ x A, s.al x = some A → s.al (tog x) = some (A.map tog)
  nodup : ∀ x A, s.al x = some A → A.Nodup
  noself : ∀ x A, s.al x = some A → tog x ∉ A
  size : ∀ x A, s.al x = some A → 2 ≤ A.length
  cm_some : ∀ x A, s.al x = some A → ∃ c, s.cmap x = some c ∧ (c.2, c.1) ∈ A
  cm_none : ∀ x, s.al x = none → s.cmap x = none
  cm_class : ∀ x A y, s.al x = some A → y ∈ A → s.cmap y = s.cmap x
  cm_neg : ∀ x c, s.cmap x = some c → s.cmap (tog x) = some (c.1, !c.2)
  cv_nodup : s.cv.Nodup
  cv_iff : ∀ c, c ∈ s.cv ↔ s.cmap (false, c) = some (c, false)

theorem wf_empty : WF AR.empty where
  self _ _ h := nomatch h
  shared _ _ _ h := nomatch h
  neg _ _ h := nomatch h
  nodup _ _ h := nomatch h
  noself _ _ h := nomatch h
  size _ _ h := nomatch h
  cm_some _ _ h := nomatch h
  cm_none _ _ := rfl
  cm_class _ _ _ h := nomatch h
  cm_neg _ _ h := nomatch h
  cv_nodup := List.nodup_nil
  cv_iff _ := ⟨nofun, nofun⟩

/-- the list-level invariant gives the invariant of C17: equal lists are equal sets, and the
    statements about `_canonical_variables_map` become statements about `canonical_signed` -/
theorem WF.wfr {s : AR} (h : WF s) : WFR s := by
  have hcls : ARInv s := ⟨h.self, fun x A y hx hy => ⟨A, h.shared x A y hx hy, fun _ => Iff.rfl⟩,
    fun x A hx => ⟨_, h.neg x A hx, fun _ => mem_map_tog⟩, h.noself⟩
  have hdom : ∀ x, s.cmap x = none ↔ s.al x = none := fun x => by
    refine ⟨fun hc => Decidable.of_not_not fun hn => ?_, h.cm_none x⟩
    obtain ⟨c, hc', _⟩ := h.cm_some x _ (al_eq_some_aliases hn)
    rw [hc] at hc'; cases hc'
  refine WFR.of_pointwise hcls (fun x => ⟨hdom x, fun A hA => ?_, ?_, fun y hy => ?_, ?_⟩)
    h.cv_iff h.cv_nodup
  · exact exists_ne_of_nodup (h.nodup x A hA) (h.size x A hA) x
  · by_cases hx : s.al x = none
    · rw [canonicalSigned_of_none (h.cm_none x hx), aliases_of_none hx]
      exact List.mem_singleton.2 rfl
    · obtain ⟨c, hc, hm⟩ := h.cm_some x _ (al_eq_some_aliases hx)
      rw [canonicalSigned_of_some hc]; exact hm
  · by_cases hx : s.al x = none
    · rw [aliases_of_none hx] at hy; rw [List.mem_singleton.1 hy]
    · have hx' := al_eq_some_aliases hx
      obtain ⟨c, hc, _⟩ := h.cm_some x _ hx'
      rw [canonicalSigned_of_some hc, canonicalSigned_of_some ((h.cm_class x _ y hx' hy).trans hc)]
  · cases hc : s.cmap x with
    | some c => rw [canonicalSigned_of_some hc, canonicalSigned_of_some (h.cm_neg x c hc), flipIf_true]
    | none =>
      have hn : s.cmap (tog x) = none := (hdom _).2 (al_tog_none hcls ((hdom x).1 hc))
      rw [canonicalSigned_of_none hc, canonicalSigned_of_none hn, flipIf_true]; rfl

theorem WF.of_wfr {s : AR} (w : WFR s) (shared : ∀ x A y, s.al x = some A → y ∈ A → s.al y = some A)
    (neg : ∀ x A, s.al x = some A → s.al (tog x) = some (A.map tog))
    (nodup : ∀ x A, s.al x = some A → A.Nodup) : WF s := by
  have hcm : ∀ {x}, s.al x ≠ none → s.cmap x = some (s.canonicalSigned x) := fun {x} hx => by
    cases hc : s.cmap x with
    | none => exact absurd ((w.dom x).1 hc) hx
    | some c => rw [canonicalSigned_of_some hc]
  have hst : ∀ {x A}, s.al x = some A → s.al x ≠ none := fun hA hn => nomatch hA.symm.trans hn
  refine ⟨w.cls.self_mem, shared, neg, nodup, w.cls.noself, fun x A hA => ?_, fun x A hA => ?_,
    fun x => (w.dom x).2, fun x A y hA hy => ?_, fun x c hc => ?_, w.cv_nodup, w.cv_iff⟩
  · obtain ⟨y, hy, hne⟩ := w.nontriv x A hA
    exact two_le_length_of_mem_ne (w.cls.self_mem x A hA) hy hne
  · exact ⟨_, hcm (hst hA), aliases_of_some hA ▸ w.rep_mem x⟩
  · rw [hcm (hst hA), hcm (hst (shared x A y hA hy)), w.can_eq x y (aliases_of_some hA ▸ hy)]
  · have hx : s.al x ≠ none := fun hn => nomatch ((w.dom x).2 hn).symm.trans hc
    rw [hcm (stored_tog w.cls hx), w.can_neg, canonicalSigned_of_some hc, flipIf_true]

namespace WF
variable {s : AR} (h : WF s)
include h

theorem aliases_self (x : SName) : x ∈ s.aliases x := mem_aliases_self h.wfr.cls x

theorem aliases_tog (x : SName) : s.aliases (tog x) = (s.aliases x).map tog := by
  by_cases hx : s.al x = none
  · rw [aliases_of_none hx, aliases_of_none (al_tog_none h.wfr.cls hx)]; rfl
  · exact aliases_of_some (h.neg x _ (al_eq_some_aliases hx))

theorem aliases_shared {x y : SName} (hy : y ∈ s.aliases x) : s.aliases y = s.aliases x := by
  by_cases hx : s.al x = none
  · rw [aliases_of_none hx] at hy; rw [List.mem_singleton.1 hy]
  · exact (aliases_of_some (h.shared x _ y (al_eq_some_aliases hx) hy))

theorem aliases_nodup (x : SName) : (s.aliases x).Nodup := by
  by_cases hx : s.al x = none
  · rw [aliases_of_none hx]; exact List.pairwise_singleton _ x
  · exact h.nodup x _ (al_eq_some_aliases hx)

theorem aliases_noself (x : SName) : tog x ∉ s.aliases x := tog_not_mem_aliases h.wfr.cls x

theorem aliases_symm {x y : SName} (hy : y ∈ s.aliases x) : x ∈ s.aliases y :=
  AliasRel.aliases_symm s h.wfr.cls hy

theorem no_both {x y : SName} (hy : y ∈ s.aliases x) : tog y ∉ s.aliases x := fun ht =>
  tog_not_mem_aliases h.wfr.cls y (aliases_trans h.wfr.cls (h.aliases_symm hy) ht)

theorem canon_mem (x : SName) : ((s.canonicalSigned x).2, (s.canonicalSigned x).1) ∈ s.aliases x :=
  h.wfr.can_mem x

theorem canon_class {x y : SName} (hy : y ∈ s.aliases x) : s.canonicalSigned y = s.canonicalSigned x :=
  h.wfr.can_eq x y hy

theorem canon_tog (x : SName) : s.canonicalSigned (tog x) = ((s.canonicalSigned x).1, !(s.canonicalSigned x).2) :=
  (h.wfr.can_neg x).trans (flipIf_true _)

end WF

theorem add_I_eq {s : AR} (h : WF s) (a b : SName) :
    s.aliases (tog a) ++ s.aliases (tog b) = (s.aliases a ++ s.aliases b).map tog := by
  rw [h.aliases_tog a, h.aliases_tog b, List.map_append]

section add
variable {s : AR} (h : WF s) {a b : SName} (hb : b ∉ s.aliases a) (hadm : b ∉ s.aliases (tog a))
include h hb hadm

theorem add_canon_ne : (s.canonicalSigned a).1 ≠ (s.canonicalSigned b).1 := fun e =>
  ((same_canonical_iff h.wfr a b).1 e).elim hb hadm

end add

theorem WF.add_wf {s s' : AR} (h : WF s) {a b : SName} (hb : b ∉ s.aliases a) (hadm : b ∉ s.aliases (tog a))
    (hs : s.add a b = some s') : WF s' := by
  have hc := h.wfr.cls
  have hI : AA s (tog a) (tog b) = (AA s a b).map tog := add_I_eq h a b
  have hnd : (AA s a b).Nodup := List.nodup_append.2 ⟨h.aliases_nodup a, h.aliases_nodup b,
    fun x hx y hy e => hb (aliases_trans hc hx (AliasRel.aliases_symm s hc (e ▸ hy)))⟩
  -- the list shape of the new entries: by the position of the name relative to the joined class
  have shape : ∀ x S, (s.addRes a b).al x = some S → (∀ y ∈ S, (s.addRes a b).al y = some S) ∧
      (s.addRes a b).al (tog x) = some (S.map tog) ∧ S.Nodup := by
    intro x S hS
    rcases addRes_cases hc hadm x with ⟨hx, hal, _⟩ | ⟨hx, hal, _⟩ | ⟨hx, hnx, hal, _⟩ <;> rw [hal] at hS
    · cases hS
      refine ⟨fun y hy => (addRes_pos hc hadm hy).1, ?_, hnd⟩
      rw [← hI]; exact (addRes_neg hc hadm (by rwa [tog_tog])).1
    · cases hS
      refine ⟨fun y hy => (addRes_neg hc hadm ((union_tog hc a b y).1 hy)).1, ?_, ?_⟩
      · rw [hI, map_tog_map_tog]; exact (addRes_pos hc hadm hx).1
      · rw [hI]; exact nodup_map_tog _ hnd
    · refine ⟨fun y hy => ?_, ?_, h.nodup x S hS⟩
      · obtain ⟨hy1, hy2⟩ := union_outside hc hx hnx (aliases_of_some hS ▸ hy)
        rw [(addRes_out s hy1 hy2).1]; exact h.shared x S y hS hy
      · rw [(addRes_out s hnx (by rwa [tog_tog])).1]; exact h.neg x S hS
  rw [eq_addRes_of_add hb hs]
  exact WF.of_wfr (addRes_wfr h.wfr hb hadm) (fun x S y hS hy => (shape x S hS).1 y hy)
    (fun x S hS => (shape x S hS).2.1) (fun x S hS => (shape x S hS).2.2)

/-- the number of names `for canonical, aliases in alias_relation` walks over -/
def elimCount (s : AR) : Nat := (s.cv.map fun c => (s.aliases (false, c)).length - 1).sum

theorem sum_filter_ne (f : String → Nat) : ∀ (L : List String) (x : String), L.Nodup → (x ∉ L → f x = 0) →
    (L.map f).sum = f x + ((L.filter (· != x)).map f).sum
  | [], x, _, h0 => by simp [h0]
  | y :: ys, x, hnd, h0 => by
    simp only [List.nodup_cons] at hnd
    by_cases hyx : y = x
    · subst hyx
      have : ys.filter (· != y) = ys :=
        List.filter_eq_self.2 fun z hz => bne_iff_ne.2 fun e => hnd.1 (e ▸ hz)
      simp [this]
    · have ih := sum_filter_ne f ys x hnd.2 fun hx => h0 fun hm => (List.mem_cons.1 hm).elim (fun e => hyx e.symm) hx
      have h1 : (y != x) = true := bne_iff_ne.2 hyx
      simp only [List.map_cons, List.sum_cons, List.filter_cons, h1, if_true]
      omega

theorem WF.al_tog {s : AR} (h : WF s) {x : SName} (hx : s.al x ≠ none) : s.al (tog x) ≠ none :=
  stored_tog h.wfr.cls hx

/-- the canonical name of `a`, taken positive, lies in the class of `a` or of `-a` (whichever `b` is), and is
    the canonical member there -/
theorem WF.canon_pos {s : AR} (h : WF s) (a : SName) :
    ∃ b, (b = a ∨ b = tog a) ∧ (false, (s.canonicalSigned a).1) ∈ s.aliases b ∧
      s.canonicalSigned b = ((s.canonicalSigned a).1, false) := by
  have hm := h.canon_mem a
  cases hsg : (s.canonicalSigned a).2 with
  | false =>
    rw [hsg] at hm
    exact ⟨a, Or.inl rfl, hm, Prod.ext rfl hsg⟩
  | true =>
    rw [hsg] at hm
    refine ⟨tog a, Or.inr rfl, ?_, by rw [h.canon_tog, hsg]; rfl⟩
    rw [h.aliases_tog]
    exact mem_map_tog.2 hm

theorem WF.aliases_canon_length {s : AR} (h : WF s) (a : SName) :
    (s.aliases (false, (s.canonicalSigned a).1)).length = (s.aliases a).length := by
  obtain ⟨b, hb, hm, _⟩ := h.canon_pos a
  rw [h.aliases_shared hm]
  rcases hb with rfl | rfl
  · rfl
  · rw [h.aliases_tog, List.length_map]

theorem WF.canon_in_cv {s : AR} (h : WF s) {a : SName} {A : List SName} (hal : s.al a = some A) :
    (s.canonicalSigned a).1 ∈ s.cv :=
  (cv_iff_canonical h.wfr a).2 ((nontrivial_iff_stored h.wfr a).2 (by rw [hal]; nofun))

theorem WF.singleton_of_not_cv {s : AR} (h : WF s) {a : SName} (hn : (s.canonicalSigned a).1 ∉ s.cv) :
    s.aliases a = [a] := by
  cases hal : s.al a with
  | none => exact aliases_of_none hal
  | some A => exact absurd (h.canon_in_cv hal) hn

/-- a class with another canonical name lies outside the joined one -/
theorem add_outside_of_canon_ne {s : AR} (h : WF s) {a b : SName} {c : String} (hc : c ∈ s.cv)
    (hna : c ≠ (s.canonicalSigned a).1) (hnb : c ≠ (s.canonicalSigned b).1) :
    (false, c) ∉ s.aliases a ++ s.aliases b ∧ tog (false, c) ∉ s.aliases a ++ s.aliases b := by
  have w := h.wfr
  have key : ∀ u : SName, c ≠ (s.canonicalSigned u).1 → (false, c) ∉ s.aliases u ∧ tog (false, c) ∉ s.aliases u := by
    intro u hu
    have hn := fun hm => hu (by rw [(same_canonical_iff w u (false, c)).2 hm, w.can_of_cv hc false])
    exact ⟨fun hm => hn (.inl hm), fun hm => hn (.inr (by rw [h.aliases_tog]; exact mem_map_tog.2 hm))⟩
  exact ⟨fun hin => (List.mem_append.1 hin).elim (key a hna).1 (key b hnb).1,
    fun hin => (List.mem_append.1 hin).elim (key a hna).2 (key b hnb).2⟩

section addfacts
variable {s s' : AR} (h : WF s) {a b : SName} (hb : b ∉ s.aliases a) (hadm : b ∉ s.aliases (tog a))
  (hs : s.add a b = some s')
include h hb hadm hs

theorem add_aliases_in {x : SName} (hx : x ∈ s.aliases a ++ s.aliases b) :
    s'.aliases x = s.aliases a ++ s.aliases b := by
  rw [eq_addRes_of_add hb hs]; exact aliases_of_some (addRes_pos h.wfr.cls hadm hx).1

theorem add_aliases_out {x : SName} (hx : x ∉ s.aliases a ++ s.aliases b) (hx' : tog x ∉ s.aliases a ++ s.aliases b) :
    s'.aliases x = s.aliases x := by
  rw [eq_addRes_of_add hb hs]; exact aliases_congr (addRes_out s hx hx').1

theorem add_canon_in {x : SName} (hx : x ∈ s.aliases a ++ s.aliases b) :
    s'.canonicalSigned x = s.canonicalSigned a := by
  rw [eq_addRes_of_add hb hs]; exact canonicalSigned_of_some (addRes_pos h.wfr.cls hadm hx).2

theorem add_canon_out {x : SName} (hx : x ∉ s.aliases a ++ s.aliases b) (hx' : tog x ∉ s.aliases a ++ s.aliases b) :
    s'.canonicalSigned x = s.canonicalSigned x := by
  rw [eq_addRes_of_add hb hs]; exact canonicalSigned_congr (addRes_out s hx hx').2

theorem add_cv_mem (n : String) : n ∈ s'.cv ↔ (n ∈ s.cv ∨ n = (s.canonicalSigned a).1) ∧ n ≠ (s.canonicalSigned b).1 := by
  rw [eq_addRes_of_add hb hs]; exact mem_cv_addRes s a b n

theorem add_mono {x y : SName} (hy : y ∈ s.aliases x) : y ∈ s'.aliases x := by
  rw [eq_addRes_of_add hb hs]; exact aliases_addRes_mono h.wfr.cls hadm hy

theorem add_joined : b ∈ s'.aliases a := by
  rw [eq_addRes_of_add hb hs]; exact mem_aliases_addRes_pair h.wfr.cls a b

theorem elimCount_add : elimCount s' = elimCount s + 1 := by
  have h' : WF s' := h.add_wf hb hadm hs
  have hne := add_canon_ne h hb hadm
  have hla : 1 ≤ (s.aliases a).length := List.length_pos_of_mem (h.aliases_self a)
  have hlb : 1 ≤ (s.aliases b).length := List.length_pos_of_mem (h.aliases_self b)
  have hain : a ∈ s.aliases a ++ s.aliases b := List.mem_append_left _ (h.aliases_self a)
  have hca' : s'.canonicalSigned a = s.canonicalSigned a := add_canon_in h hb hadm hs hain
  -- the summand of a canonical name is the size of its class less one, and 0 if the name is not listed
  have hterm : ∀ {t : AR}, WF t → ∀ x : SName,
      (t.aliases (false, (t.canonicalSigned x).1)).length - 1 = (t.aliases x).length - 1 ∧
      ((t.canonicalSigned x).1 ∉ t.cv → (t.aliases (false, (t.canonicalSigned x).1)).length - 1 = 0) := by
    intro t ht x
    rw [ht.aliases_canon_length x]
    exact ⟨rfl, fun hn => by rw [ht.singleton_of_not_cv hn]; rfl⟩
  have hnew : (s'.aliases (false, (s.canonicalSigned a).1)).length - 1 = (s.aliases a).length + (s.aliases b).length - 1 := by
    have := (hterm h' a).1
    rwa [hca', add_aliases_in h hb hadm hs hain, List.length_append] at this
  -- classes away from the joined one are unchanged
  have hsame : ∀ c ∈ (s.cv.filter (· != (s.canonicalSigned b).1)).filter (· != (s.canonicalSigned a).1),
      (s'.aliases (false, c)).length - 1 = (s.aliases (false, c)).length - 1 := by
    intro c hc
    have h1 := List.mem_filter.1 hc
    have h2 := List.mem_filter.1 h1.1
    have := add_outside_of_canon_ne h h2.1 (by simpa using h1.2) (by simpa using h2.2)
    rw [add_aliases_out h hb hadm hs this.1 this.2]
  have hrest : s'.cv.filter (· != (s.canonicalSigned a).1) =
      (s.cv.filter (· != (s.canonicalSigned b).1)).filter (· != (s.canonicalSigned a).1) := by
    rw [eq_addRes_of_add hb hs]
    simp only [AR.addRes]
    split
    · rfl
    · rw [List.filter_append, List.filter_append]
      have hcb : ((s.canonicalSigned a).1 != (s.canonicalSigned b).1) = true := by simpa using hne
      simp [hcb]
  unfold elimCount
  rw [sum_filter_ne _ s'.cv (s.canonicalSigned a).1 h'.cv_nodup
      (fun hn => absurd ((add_cv_mem h hb hadm hs _).2 ⟨Or.inr rfl, hne⟩) hn),
    hrest, List.map_congr_left hsame, hnew,
    sum_filter_ne (fun c => (s.aliases (false, c)).length - 1) s.cv (s.canonicalSigned b).1 h.cv_nodup (hterm h b).2,
    sum_filter_ne (fun c => (s.aliases (false, c)).length - 1) (s.cv.filter (· != (s.canonicalSigned b).1))
      (s.canonicalSigned a).1 (h.cv_nodup.sublist List.filter_sublist)
      (fun hn => (hterm h a).2 fun hcv => hn (List.mem_filter.2 ⟨hcv, by simpa using hne⟩)),
    (hterm h a).1, (hterm h b).1]
  omega

end addfacts

/-- `n` belongs to a recorded class without being its canonical name -/
def NonCanon (s : AR) (n : String) : Prop := s.al (false, n) ≠ none ∧ n ∉ s.cv

/-- the non-canonical members of the class of the canonical name `c` -/
def classRest (s : AR) (c : String) : List SName := (s.aliases (false, c)).filter (· != (false, c))

/-- base names of all non-canonical members, class by class -/
def restNames (s : AR) : List String := s.cv.flatMap fun c => (classRest s c).map (·.2)

theorem WF.cv_canon {s : AR} (h : WF s) {c : String} (hc : c ∈ s.cv) : s.canonicalSigned (false, c) = (c, false) :=
  h.wfr.can_of_cv hc false

theorem WF.canon_base {s : AR} (h : WF s) {a a' : SName} (hb : a.2 = a'.2) :
    (s.canonicalSigned a').1 = (s.canonicalSigned a).1 := by
  rcases eq_or_eq_tog hb with rfl | rfl
  · rfl
  · rw [h.canon_tog]

theorem WF.al_base {s : AR} (h : WF s) {a a' : SName} (hb : a.2 = a'.2) (ha : s.al a ≠ none) : s.al a' ≠ none := by
  rcases eq_or_eq_tog hb with rfl | rfl
  · exact ha
  · exact h.al_tog ha

theorem WF.rest_base {s : AR} (h : WF s) {c : String} (hc : c ∈ s.cv) {a : SName} (ha : a ∈ classRest s c) :
    a.2 ≠ c ∧ a.2 ∉ s.cv := by
  obtain ⟨hmem, hne⟩ := List.mem_filter.1 ha
  have hca : (s.canonicalSigned a).1 = c := by rw [h.canon_class hmem, h.cv_canon hc]
  have hbase : a.2 ≠ c := by
    intro e
    rcases eq_or_eq_tog (u := (false, c)) (v := a) e.symm with rfl | rfl
    · simp at hne
    · exact h.aliases_noself _ hmem
  refine ⟨hbase, fun hcv => hbase ?_⟩
  rw [← hca, h.canon_base (a := (false, a.2)) (a' := a) rfl, h.cv_canon hcv]

theorem WF.mem_restNames {s : AR} (h : WF s) (n : String) : n ∈ restNames s ↔ NonCanon s n := by
  unfold restNames NonCanon
  simp only [List.mem_flatMap, List.mem_map]
  constructor
  · rintro ⟨c, hc, a, ha, rfl⟩
    exact ⟨h.al_base (a := a) rfl (stored_of_mem h.wfr.cls (List.mem_filter.1 ha).1 (h.wfr.stored_of_cv hc)), (h.rest_base hc ha).2⟩
  · rintro ⟨hal, hncv⟩
    cases hA : s.al (false, n) with
    | none => exact absurd hA hal
    | some A =>
      -- the one of `n`, `-n` that is in the class of the canonical name
      have hcv := h.canon_in_cv hA
      obtain ⟨b, hb, hm, _⟩ := h.canon_pos (false, n)
      have hbn : b.2 = n := by rcases hb with rfl | rfl <;> rfl
      refine ⟨_, hcv, b, List.mem_filter.2 ⟨h.aliases_symm hm, bne_iff_ne.2 fun e => hncv ?_⟩, hbn⟩
      rw [e] at hbn
      exact hbn ▸ hcv

theorem WF.classRest_length {s : AR} (h : WF s) (c : String) : (classRest s c).length = (s.aliases (false, c)).length - 1 := by
  rw [classRest, ← (h.aliases_nodup _).erase_eq_filter, List.length_erase_of_mem (h.aliases_self _)]

theorem WF.restNames_length {s : AR} (h : WF s) : (restNames s).length = elimCount s := by
  unfold restNames elimCount
  rw [List.length_flatMap]
  congr 1
  apply List.map_congr_left
  intro c _
  rw [List.length_map, h.classRest_length]

theorem WF.same_base {s : AR} (h : WF s) {x a a' : SName} (ha : a ∈ s.aliases x) (ha' : a' ∈ s.aliases x) (hb : a.2 = a'.2) :
    a = a' := by
  rcases eq_or_eq_tog hb with rfl | rfl
  · rfl
  · exact absurd ha' (h.no_both ha)

theorem WF.classRest_names_nodup {s : AR} (h : WF s) (c : String) : ((classRest s c).map (·.2)).Nodup := by
  have hnd : (classRest s c).Nodup := (h.aliases_nodup (false, c)).sublist List.filter_sublist
  rw [List.Nodup, List.pairwise_map]
  exact hnd.imp_of_mem fun ha hb hne e => hne (h.same_base (List.mem_filter.1 ha).1 (List.mem_filter.1 hb).1 e)

theorem WF.classRest_disjoint {s : AR} (h : WF s) {c c' : String} (hc : c ∈ s.cv) (hc' : c' ∈ s.cv) (hne : c ≠ c')
    {n : String} (h1 : n ∈ (classRest s c).map (·.2)) (h2 : n ∈ (classRest s c').map (·.2)) : False := by
  obtain ⟨a, ha, rfl⟩ := List.mem_map.1 h1
  obtain ⟨a', ha', hb⟩ := List.mem_map.1 h2
  have k1 : (s.canonicalSigned a).1 = c := by rw [h.canon_class (List.mem_filter.1 ha).1, h.cv_canon hc]
  have k2 : (s.canonicalSigned a').1 = c' := by rw [h.canon_class (List.mem_filter.1 ha').1, h.cv_canon hc']
  exact hne (by rw [← k1, ← k2, h.canon_base hb])

theorem WF.restNames_nodup {s : AR} (h : WF s) : (restNames s).Nodup := by
  rw [restNames, List.Nodup, List.pairwise_flatMap]
  refine ⟨fun c _ => h.classRest_names_nodup c, h.cv_nodup.imp_of_mem fun hc hc' hne n hn m hm e => ?_⟩
  exact h.classRest_disjoint hc hc' hne hn (e ▸ hm)

/-- `s` extends `old`: recorded classes stay recorded, and a canonical name of `s` was canonical or unrecorded in `old` -/
structure Ext (old s : AR) : Prop where
  al : ∀ x, old.al x ≠ none → s.al x ≠ none
  cv : ∀ c ∈ s.cv, c ∈ old.cv ∨ old.al (false, c) = none

theorem Ext.refl (s : AR) : Ext s s := ⟨fun _ h => h, fun _ hc => Or.inl hc⟩

theorem Ext.add {old s s' : AR} (he : Ext old s) (h : WF s) {a b : SName} (hb : b ∉ s.aliases a)
    (hadm : b ∉ s.aliases (tog a)) (hs : s.add a b = some s') : Ext old s' := by
  constructor
  · intro x hx
    have := he.al x hx
    rw [eq_addRes_of_add hb hs]
    rcases addRes_cases h.wfr.cls hadm x with ⟨_, hal, _⟩ | ⟨_, hal, _⟩ | ⟨_, _, hal, _⟩ <;> rw [hal]
    · nofun
    · nofun
    · exact this
  · intro c hc
    rcases ((add_cv_mem h hb hadm hs c).1 hc).1 with h1 | rfl
    · exact he.cv c h1
    · -- the canonical name of `a`: listed before, or `a` was not recorded and is its own canonical name
      cases hal : s.al a with
      | some A => exact he.cv _ (h.canon_in_cv hal)
      | none =>
        right
        rw [canonicalSigned_of_none (h.cm_none a hal)]
        exact Classical.byContradiction fun hn => h.al_base (a := (false, a.2)) (a' := a) rfl (he.al _ hn) hal

theorem Ext.nonCanon {old s : AR} (he : Ext old s) {n : String} (hn : NonCanon old n) : NonCanon s n := by
  refine ⟨he.al _ hn.1, ?_⟩
  intro hc
  rcases he.cv n hc with h1 | h1
  · exact hn.2 h1
  · exact hn.1 h1

/-- "handled in a previous pass", as a function of the base name -/
def handledB (old : AR) (n : String) : Bool := (old.al (false, n)).isSome && !(old.cv.contains n)

theorem handledB_iff (old : AR) (n : String) : handledB old n = true ↔ NonCanon old n := by
  unfold handledB NonCanon
  cases h : old.al (false, n) <;> simp

theorem eraseDups_of_nodup {α} [BEq α] [LawfulBEq α] : ∀ (l : List α), l.Nodup → l.eraseDups = l
  | [], _ => by simp
  | x :: xs, h => by
    simp only [List.nodup_cons] at h
    rw [List.eraseDups_cons]
    have : xs.filter (fun b => !b == x) = xs := by
      rw [List.filter_eq_self]; intro y hy
      have : y ≠ x := fun e => h.1 (e ▸ hy)
      simpa using this
    rw [this, eraseDups_of_nodup xs h.2]

theorem WF.one_lt_length_iff {s : AR} (h : WF s) (a : SName) : 1 < (s.aliases a).length ↔ s.al a ≠ none := by
  cases hal : s.al a with
  | none => rw [aliases_of_none hal]; exact ⟨fun h1 => absurd h1 (Nat.lt_irrefl 1), fun h1 => absurd rfl h1⟩
  | some A => rw [aliases_of_some hal]; exact ⟨fun _ => nofun, fun _ => h.size a A hal⟩

theorem WF.alreadyHandled_eq {old : AR} (h : WF old) (a : SName) : alreadyHandled old a = handledB old a.2 := by
  unfold alreadyHandled handledB
  rw [eraseDups_of_nodup _ (h.aliases_nodup a)]
  congr 1
  rw [Bool.eq_iff_iff, decide_eq_true_iff, Option.isSome_iff_ne_none, gt_iff_lt, h.one_lt_length_iff]
  exact ⟨h.al_base rfl, h.al_base rfl⟩

theorem WF.newAliases_eq {old ar : AR} (ho : WF old) (hw : WF ar) (c : String) :
    newAliases old ar c = (classRest ar c).filter (fun a => !handledB old a.2) := by
  unfold newAliases classRest
  rw [eraseDups_of_nodup _ (hw.aliases_nodup (false, c))]
  apply List.filter_congr
  intro a _
  rw [ho.alreadyHandled_eq]

theorem newAliases_total {old ar : AR} (ho : WF old) (hw : WF ar) :
    ∀ (cs : List String), (cs.map fun c => (newAliases old ar c).length).sum =
      ((cs.flatMap fun c => (classRest ar c).map (·.2)).filter (fun n => !handledB old n)).length
  | [] => by simp
  | c :: cs => by
    simp only [List.map_cons, List.sum_cons, List.flatMap_cons, List.filter_append, List.length_append]
    rw [newAliases_total ho hw cs, ho.newAliases_eq hw, List.filter_map, List.length_map]
    rfl

/-- the names a pass eliminates now: as many as `elimCount` grew since the pass started -/
theorem elim_now_count {old ar : AR} (ho : WF old) (hw : WF ar) (he : Ext old ar) :
    (ar.cv.map fun c => (newAliases old ar c).length).sum + elimCount old = elimCount ar := by
  rw [newAliases_total ho hw ar.cv]
  have hsplit := (List.filter_append_perm (fun n => handledB old n) (restNames ar)).length_eq
  rw [List.length_append] at hsplit
  have hperm : ((restNames ar).filter (fun n => handledB old n)).Perm (restNames old) := by
    rw [List.perm_ext_iff_of_nodup (hw.restNames_nodup.sublist List.filter_sublist) ho.restNames_nodup]
    intro n
    rw [List.mem_filter, hw.mem_restNames, ho.mem_restNames, handledB_iff]
    constructor
    · exact fun h => h.2
    · exact fun h => ⟨he.nonCanon h, h⟩
  have := hperm.length_eq
  rw [ho.restNames_length] at this
  rw [hw.restNames_length] at hsplit
  unfold restNames at hsplit this
  omega

end PymocaVerif.Simplify
