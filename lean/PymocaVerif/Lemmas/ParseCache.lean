import PymocaVerif.Model.ParseCache
/-! Lemmas for C01.  The transactions are used through the equations and inversion lemmas at the top
    (`tx…_of_queryable`, `tx…_ok`).  What is claimed of rows goes through `AllRows` (a predicate on key,
    version and blob, kept by every transaction and operation), what is claimed of `Synced` / `Usable`
    through `layoutOf`, and `parseCached` is `afterInit` from the given or from a freshly initialised
    state (`parseCached_cases`). -/
namespace PymocaVerif.ParseCache

variable {pf : Ver → TextId → Option TreeId}

def rowsOf : DbFile → List Row
  | .db (some m) _ => m.rows
  | _ => []

/-- a row that unpickles to a tree holds the tree the uncached parser gives for its own text and version -/
def RowOk (pf : Ver → TextId → Option TreeId) (r : Row) : Prop :=
  ∀ t, r.blob = .good (some t) → pf r.ver r.key = some t

def FileInv (pf : Ver → TextId → Option TreeId) (f : DbFile) : Prop := ∀ r ∈ rowsOf f, RowOk pf r

def RowInv (pf : Ver → TextId → Option TreeId) (s : St) : Prop := FileInv pf s.file

/-- every statement of `parse` works on the `models` table (lookup, update, delete *and* insert) -/
def Insertable (f : DbFile) : Prop := ∃ m, f.queryable = some m ∧ m.layout ≠ .extraCol

/-- the process has not initialised the database, or the `models` table is fully usable -/
def Synced (s : St) : Prop := s.init = true → Insertable s.file

/-- … or at least its damage shows at the lookup (what the recovery of fix 821b239 copes with) -/
def Usable (s : St) : Prop := s.init = true → (s.file.queryable = none ∨ Insertable s.file)

/-- no stored row unpickles to `None` -/
def NoNone (f : DbFile) : Prop := ∀ r ∈ rowsOf f, r.blob ≠ .good none

theorem Exc.mem_all (e : Exc) : e ∈ Exc.all := by cases e <;> decide

/-- every exception class a damaged blob raises is caught -/
def CaughtAll (cfg : Cfg) : Prop := ∀ e, cfg.isCaught e = true

theorem caughtAll_of_all {cfg : Cfg} (h : Exc.all.all cfg.isCaught = true) : CaughtAll cfg :=
  fun e => List.all_eq_true.mp h e (Exc.mem_all e)

/-- Operations the statement quantifies over: an entry is damaged into something that does not unpickle,
    or unpickles to `None` — not into a *different well-formed tree* (outside "entries that no longer
    unpickle"; nothing could detect that). -/
def Admissible (pf : Ver → TextId → Option TreeId) : Op → Prop
  | .corruptEntry x v (.good (some t)) => pf v x = some t
  | _ => True

instance (pf : Ver → TextId → Option TreeId) (op : Op) : Decidable (Admissible pf op) := by
  unfold Admissible; split <;> infer_instance

/-- deleting / overwriting the file, dropping the `models` table or replacing it by one with other columns -/
def damaging : Op → Bool
  | .corruptFile _ => true
  | .corruptLayout .models .drop => true
  | .corruptLayout .models .alien => true
  | .corruptLayout .models .extraCol => true
  | _ => false

/-- damage that does not show at the lookup but at the insert (not covered by the recovery of 821b239) -/
def damagingWrite : Op → Bool
  | .corruptLayout .models .extraCol => true
  | _ => false

/-- planting a blob that unpickles to `None` is the only way such a row comes into existence -/
def plantsNone : Op → Bool
  | .corruptEntry _ _ (.good none) => true
  | _ => false

section FileLayer
variable {f f' : DbFile} {m : Models} {rows : List Row} {x : TextId} {v : Ver} {t : Int} {tree : TreeId}

theorem queryable_eq_some : f.queryable = some m ↔ ∃ t, f = .db (some m) t ∧ m.layout ≠ .alien := by
  constructor
  · intro h
    unfold DbFile.queryable at h
    split at h
    · split at h
      · cases h
      · next ha =>
          cases h
          exact ⟨_, rfl, ha⟩
    · cases h
  · rintro ⟨t, rfl, ha⟩
    exact if_neg ha

theorem queryable_rows (h : f.queryable = some m) : rowsOf f = m.rows := by
  obtain ⟨t, rfl, _⟩ := queryable_eq_some.mp h
  rfl

theorem queryable_setRows (rows : List Row) (h : f.queryable = some m) :
    (f.setRows rows).queryable = some { m with rows := rows } := by
  obtain ⟨t, rfl, ha⟩ := queryable_eq_some.mp h
  exact queryable_eq_some.mpr ⟨t, rfl, ha⟩

theorem rowsOf_setRows (rows : List Row) (h : f.queryable = some m) : rowsOf (f.setRows rows) = rows := by
  obtain ⟨t, rfl, _⟩ := queryable_eq_some.mp h
  rfl

theorem rowsOf_db (m : Option Models) (a b : Option MetaTbl) : rowsOf (.db m a) = rowsOf (.db m b) := by
  cases m <;> rfl

theorem matches_iff {r : Row} : matches_ x v r = true ↔ r.key = x ∧ r.ver = v := by
  simp [matches_]

theorem txCheckModels_db (m : Option Models) (t : Option MetaTbl) :
    ∃ rows, txCheckModels (.db m t) = .ok (.db (some ⟨.ok, rows⟩) t) ∧ ∀ r ∈ rows, r ∈ rowsOf (.db m t) := by
  cases m with
  | none => exact ⟨[], rfl, List.forall_mem_nil _⟩
  | some mm =>
    obtain ⟨lay, rows⟩ := mm
    by_cases hl : lay = .ok
    · subst hl
      exact ⟨rows, rfl, fun _ h => h⟩
    · exact ⟨[], if_neg hl, List.forall_mem_nil _⟩

theorem txCheckModels_ok (he : txCheckModels f = .ok f') :
    ∃ m t rows, f = .db m t ∧ f' = .db (some ⟨.ok, rows⟩) t ∧ ∀ r ∈ rows, r ∈ rowsOf f := by
  cases f with
  | garbage => cases he
  | db m t =>
    obtain ⟨rows, e, hsub⟩ := txCheckModels_db m t
    rw [e] at he
    cases he
    exact ⟨m, t, rows, rfl, rfl, hsub⟩

theorem txCheckModels_succeeds (h : f ≠ .garbage) : ∃ f', txCheckModels f = .ok f' := by
  cases f with
  | garbage => exact absurd rfl h
  | db m t =>
    obtain ⟨rows, e, _⟩ := txCheckModels_db m t
    exact ⟨_, e⟩

theorem txCheckMeta_db (m : Option Models) (t : Option MetaTbl) :
    ∃ c p, txCheckMeta (.db m t) = .ok (.db m (some (.ok c p))) := by
  cases t with
  | none => exact ⟨_, _, rfl⟩
  | some tt => cases tt <;> exact ⟨_, _, rfl⟩

theorem txCheckMeta_ok (he : txCheckMeta f = .ok f') : ∃ m t c p, f = .db m t ∧ f' = .db m (some (.ok c p)) := by
  cases f with
  | garbage => cases he
  | db m t =>
    obtain ⟨c, p, e⟩ := txCheckMeta_db m t
    rw [e] at he
    cases he
    exact ⟨m, t, c, p, rfl, rfl⟩

theorem txCheckMeta_succeeds (h : f ≠ .garbage) : ∃ f', txCheckMeta f = .ok f' := by
  cases f with
  | garbage => exact absurd rfl h
  | db m t =>
    obtain ⟨c, p, e⟩ := txCheckMeta_db m t
    exact ⟨_, e⟩

theorem txMetaDefaults_ok {t1 t2 : Int} (he : txMetaDefaults t1 t2 f = .ok f') :
    ∃ m c p c' p', f = .db m (some (.ok c p)) ∧ f' = .db m (some (.ok c' p')) := by
  unfold txMetaDefaults at he
  split at he
  · cases he
    exact ⟨_, _, _, _, _, rfl, rfl⟩
  · cases he

theorem txPrune_ok {c : Int} (he : txPrune c t f = .ok f') :
    ∃ m cc p p', f = .db (some m) (some (.ok cc p)) ∧ m.layout ≠ .alien ∧
      f' = .db (some { m with rows := m.rows.filter fun r => !(decide (r.lastHit < c)) }) (some (.ok cc p')) := by
  unfold txPrune at he
  split at he
  · split at he
    · cases he
    · next ha =>
        cases he
        exact ⟨_, _, _, _, rfl, ha, rfl⟩
  · cases he

theorem txLookup_of_queryable (hq : f.queryable = some m) :
    txLookup x v f = .ok ((m.rows.find? (matches_ x v)).map fun r => (r.lastHit, r.blob)) := by
  unfold txLookup
  rw [hq]

theorem txLookup_of_not_queryable (hq : f.queryable = none) : txLookup x v f = .error .db := by
  unfold txLookup
  rw [hq]

theorem txLookup_hit {lh : Int} {b : Blob} (h : txLookup x v f = .ok (some (lh, b))) :
    ∃ r ∈ rowsOf f, r.key = x ∧ r.ver = v ∧ r.blob = b := by
  cases hq : f.queryable with
  | none =>
    rw [txLookup_of_not_queryable hq] at h
    cases h
  | some m =>
    rw [txLookup_of_queryable hq] at h
    cases hfind : m.rows.find? (matches_ x v) with
    | none =>
      rw [hfind] at h
      cases h
    | some r =>
      rw [hfind] at h
      cases h
      obtain ⟨hk, hv⟩ := matches_iff.mp (List.find?_some hfind)
      exact ⟨r, queryable_rows hq ▸ List.mem_of_find?_eq_some hfind, hk, hv, rfl⟩

theorem txTouch_of_queryable (hq : f.queryable = some m) :
    txTouch x v t f = .ok (f.setRows (m.rows.map fun r =>
      if matches_ x v r then { r with lastHit := max (r.lastHit + 1) t } else r)) := by
  unfold txTouch
  rw [hq]

theorem txTouch_ok (he : txTouch x v t f = .ok f') :
    ∃ m, f.queryable = some m ∧ f' = f.setRows (m.rows.map fun r =>
      if matches_ x v r then { r with lastHit := max (r.lastHit + 1) t } else r) := by
  cases hq : f.queryable with
  | none =>
    unfold txTouch at he
    rw [hq] at he
    cases he
  | some m =>
    rw [txTouch_of_queryable hq] at he
    cases he
    exact ⟨m, rfl, rfl⟩

theorem txInsert_of_queryable (hq : f.queryable = some m) :
    txInsert x v tree t f = if m.layout = .extraCol then .error .db else
      .ok (f.setRows ((if m.layout = .ok then m.rows.filter (fun r => !matches_ x v r) else m.rows) ++
        [⟨x, v, .good (some tree), t⟩])) := by
  unfold txInsert
  rw [hq]

theorem txInsert_of_not_queryable (hq : f.queryable = none) : txInsert x v tree t f = .error .db := by
  unfold txInsert
  rw [hq]

theorem txInsert_ok (he : txInsert x v tree t f = .ok f') :
    ∃ m, f.queryable = some m ∧ m.layout ≠ .extraCol ∧
      f' = f.setRows ((if m.layout = .ok then m.rows.filter (fun r => !matches_ x v r) else m.rows) ++
        [⟨x, v, .good (some tree), t⟩]) := by
  cases hq : f.queryable with
  | none =>
    rw [txInsert_of_not_queryable hq] at he
    cases he
  | some m =>
    rw [txInsert_of_queryable hq] at he
    split at he
    · cases he
    · next hl =>
        cases he
        exact ⟨m, rfl, hl, rfl⟩

theorem txInsert_insertable (h : Insertable f) : ∃ f', txInsert x v tree t f = .ok f' ∧ Insertable f' := by
  obtain ⟨m, hq, hl⟩ := h
  exact ⟨_, (txInsert_of_queryable hq).trans (if_neg hl), _, queryable_setRows _ hq, hl⟩

/-- `P` holds of what every row says (key, version, blob), whatever its `last_hit` -/
def AllRows (P : TextId → Ver → Blob → Prop) (f : DbFile) : Prop := ∀ r ∈ rowsOf f, P r.key r.ver r.blob

def okRow (pf : Ver → TextId → Option TreeId) (k : TextId) (v : Ver) (b : Blob) : Prop :=
  ∀ t, b = .good (some t) → pf v k = some t

def notNone (_ : TextId) (_ : Ver) (b : Blob) : Prop := b ≠ .good none

theorem fileInv_iff {f : DbFile} : FileInv pf f ↔ AllRows (okRow pf) f := Iff.rfl

theorem noNone_iff {f : DbFile} : NoNone f ↔ AllRows notNone f := Iff.rfl

theorem okRow_fresh {t : TreeId} (hpf : pf v x = some t) : okRow pf x v (.good (some t)) :=
  fun _ ht => by
    cases ht
    exact hpf

variable {P : TextId → Ver → Blob → Prop}

theorem AllRows.of_sub (hsub : ∀ r ∈ rowsOf f', r ∈ rowsOf f) (h : AllRows P f) : AllRows P f' :=
  fun r hr => h r (hsub r hr)

theorem rowsOf_integrity_sub (f : DbFile) : ∀ r ∈ rowsOf (txIntegrity f), r ∈ rowsOf f := by
  cases f with
  | garbage => exact List.forall_mem_nil _
  | db m t => exact fun _ h => h

theorem allRows_touch (he : txTouch x v t f = .ok f') (h : AllRows P f) : AllRows P f' := by
  obtain ⟨m, hq, rfl⟩ := txTouch_ok he
  intro r hr
  rw [rowsOf_setRows _ hq] at hr
  obtain ⟨r0, hr0, rfl⟩ := List.mem_map.mp hr
  have h0 := h r0 (queryable_rows hq ▸ hr0)
  split <;> exact h0

theorem allRows_insert (hnew : P x v (.good (some tree))) (he : txInsert x v tree t f = .ok f')
    (h : AllRows P f) : AllRows P f' := by
  obtain ⟨m, hq, _, rfl⟩ := txInsert_ok he
  intro r hr
  rw [rowsOf_setRows _ hq] at hr
  rcases List.mem_append.mp hr with hr | hr
  · refine h r (queryable_rows hq ▸ ?_)
    split at hr
    · exact (List.mem_filter.mp hr).1
    · exact hr
  · cases List.mem_singleton.mp hr
    exact hnew

theorem allRows_damageEntry {b : Blob} (hb : P x v b) (h : AllRows P f) : AllRows P (damageEntry x v b f) := by
  unfold damageEntry
  cases hq : f.queryable with
  | none => exact h
  | some m =>
    intro r hr
    rw [rowsOf_setRows _ hq] at hr
    obtain ⟨r0, hr0, rfl⟩ := List.mem_map.mp hr
    split
    · next hm =>
      obtain ⟨hk, hv⟩ := matches_iff.mp hm
      rw [hk, hv]
      exact hb
    · exact h r0 (queryable_rows hq ▸ hr0)

theorem rowsOf_damageLayout_sub (t : Tbl) (how : LayoutDamage) (f : DbFile) :
    ∀ r ∈ rowsOf (damageLayout t how f), r ∈ rowsOf f := by
  cases f with
  | garbage => exact fun _ h => h
  | db m mt =>
    cases m with
    | none => cases t <;> cases how <;> exact fun _ h => h
    | some mm =>
      cases t <;> cases how
      case models.drop | models.alien => exact List.forall_mem_nil _
      case models.noPk | models.extraCol =>
        -- a `models` table re-created with another layout keeps the rows it could read
        show ∀ r ∈ (if mm.layout = .alien then [] else mm.rows), r ∈ mm.rows
        split
        · exact List.forall_mem_nil _
        · exact fun _ h => h
      all_goals exact fun _ h => h

theorem rowsOf_damageFile (how : FileDamage) : rowsOf (damageFile how) = [] := by cases how <;> rfl

theorem allRows_foreignWrite {lh : Int} (hfresh : ∀ t, pf v x = some t → P x v (.good (some t)))
    (h : AllRows P f) : AllRows P (foreignWrite pf x v lh f) := by
  unfold foreignWrite
  cases hpf : pf v x with
  | none => exact h
  | some t =>
    dsimp only
    cases he : txInsert x v t lh f with
    | error e => exact h
    | ok f' => exact allRows_insert (hfresh t hpf) he h

end FileLayer

theorem rowsOf_setRows_sub {f : DbFile} {rows : List Row} : ∀ r ∈ rowsOf (f.setRows rows), r ∈ rows := by
  intro r hr
  cases f with
  | garbage => cases hr
  | db m t =>
    cases m with
    | none => cases hr
    | some m => exact hr

theorem fileInv_integrity {f : DbFile} (h : FileInv pf f) : FileInv pf (txIntegrity f) :=
  fileInv_iff.mpr ((fileInv_iff.mp h).of_sub (rowsOf_integrity_sub f))

theorem fileInv_checkModels {f f' : DbFile} (h : FileInv pf f) (he : txCheckModels f = .ok f') : FileInv pf f' := by
  obtain ⟨m, t, rows, rfl, rfl, hsub⟩ := txCheckModels_ok he
  exact fun r hr => h r (hsub r hr)

theorem fileInv_checkMeta {f f' : DbFile} (h : FileInv pf f) (he : txCheckMeta f = .ok f') : FileInv pf f' := by
  obtain ⟨m, t, c, p, rfl, rfl⟩ := txCheckMeta_ok he
  exact fun r hr => h r (rowsOf_db m _ t ▸ hr)

theorem fileInv_metaDefaults {f f' : DbFile} {t1 t2 : Int} (h : FileInv pf f) (he : txMetaDefaults t1 t2 f = .ok f') :
    FileInv pf f' := by
  obtain ⟨m, c, p, c', p', rfl, rfl⟩ := txMetaDefaults_ok he
  exact fun r hr => h r (rowsOf_db m _ (some (.ok c p)) ▸ hr)

theorem fileInv_prune {f f' : DbFile} {c t : Int} (h : FileInv pf f) (he : txPrune c t f = .ok f') : FileInv pf f' := by
  obtain ⟨m, cc, p, p', rfl, _, rfl⟩ := txPrune_ok he
  exact fun r hr => h r (List.mem_filter.mp hr).1

/-- `s'` is `s` just initialised -/
structure Fresh (s s' : St) : Prop where
  ver : s'.ver = s.ver
  queryable : ∃ rows, s'.file.queryable = some ⟨.ok, rows⟩
  rows : ∀ r ∈ rowsOf s'.file, r ∈ rowsOf s.file

theorem initBlock_spec (s : St) (days : Int) : ∃ s', initBlock s days = .ok s' ∧ Fresh s s' := by
  -- the integrity check leaves a database; on a database neither structure transaction can fail;
  -- after them the defaults and the prune find the tables they need
  obtain ⟨m, t, h0⟩ : ∃ m t, txIntegrity s.file = .db m t := by
    cases s.file with
    | garbage => exact ⟨_, _, rfl⟩
    | db m t => exact ⟨_, _, rfl⟩
  obtain ⟨rows, h1, hsub⟩ := txCheckModels_db m t
  obtain ⟨c, p, h2⟩ := txCheckMeta_db (some ⟨.ok, rows⟩) t
  have hsub0 := rowsOf_integrity_sub s.file
  rw [h0] at hsub0
  unfold initBlock
  simp only [h0, h1, h2, St.read, txMetaDefaults, txPrune]
  exact ⟨_, rfl, rfl, ⟨_, rfl⟩, fun r hr => hsub0 r (hsub r (List.mem_filter.mp hr).1)⟩

/-- There is no such exception: from a single process the block always succeeds (`initBlock_spec`), so
    `he` is refuted and `h` is not used. -/
theorem initBlock_err_inv {s s' : St} {days : Int} {e : Err} (h : RowInv pf s) (he : initBlock s days = .error (s', e)) :
    RowInv pf s' := by
  obtain ⟨s'', he', _⟩ := initBlock_spec s days
  rw [he] at he'
  cases he'

theorem read_file (s : St) : s.read.2.file = s.file := rfl
theorem read_ver (s : St) : s.read.2.ver = s.ver := rfl
theorem read_init (s : St) : s.read.2.init = s.init := rfl

theorem finish_some {cfg : Cfg} {s : St} {x : TextId} {t : TreeId} :
    finish cfg pf s x (some t) = (s, .value (some t)) := rfl

section Call
variable {cfg : Cfg} {s s' : St} {x : TextId} {upd : Bool} {days : Int} {m : Models}
  {P : TextId → Ver → Blob → Prop}

theorem finish_allRows {tree : Option TreeId} (hfresh : ∀ t, pf s.ver x = some t → P x s.ver (.good (some t)))
    (h : AllRows P s.file) : AllRows P (finish cfg pf s x tree).1.file := by
  unfold finish
  split
  · exact h
  · split
    · exact h
    · next t hpf =>
      dsimp only
      split
      · split <;> exact h
      · next f he => exact allRows_insert (hfresh t hpf) he h

theorem finish_none_result (hq : s.file.queryable = some m) (hw : m.layout ≠ .extraCol ∨ cfg.writeTolerant = true) :
    (finish cfg pf s x none).2 = .value (pf s.ver x) := by
  unfold finish
  dsimp only
  cases hpf : pf s.ver x with
  | none => rfl
  | some t =>
    dsimp only
    split
    · next he =>
      split
      · rfl
      · next hnw =>
        have he' : txInsert x s.ver t s.now s.file = .error _ := he
        rcases hw with hl | hw
        · rw [txInsert_of_queryable hq, if_neg hl] at he'
          cases he'
        · exact absurd hw hnw
    · rfl

theorem finish_none_insertable (hq : Insertable s.file) : Insertable (finish cfg pf s x none).1.file := by
  unfold finish
  dsimp only
  cases pf s.ver x with
  | none => exact hq
  | some t =>
    dsimp only [read_file, read_ver]
    obtain ⟨f', he, hi⟩ := txInsert_insertable (x := x) (v := s.ver) (tree := t) (t := s.read.1) hq
    rw [he]
    exact hi

/-- `s1` is `s` after clock reads and possibly a `last_hit` update -/
structure Touched (s s1 : St) : Prop where
  ver : s1.ver = s.ver
  queryable : ∀ m, s.file.queryable = some m → ∃ rows, s1.file.queryable = some { m with rows := rows }
  rows : ∀ P, AllRows P s.file → AllRows P s1.file

theorem Touched.refl (s : St) : Touched s s := ⟨rfl, fun m h => ⟨m.rows, h⟩, fun _ h => h⟩

theorem Touched.insertable {s1 : St} (h : Touched s s1) (hq : Insertable s.file) : Insertable s1.file := by
  obtain ⟨m, hm, hl⟩ := hq
  obtain ⟨rows, h1⟩ := h.queryable m hm
  exact ⟨_, h1, hl⟩

theorem touchStep_spec (s : St) (x : TextId) (upd : Bool) (lh : Int) (hq : s.file.queryable = some m) :
    ∃ s1, touchStep s x upd lh = .ok s1 ∧ Touched s s1 := by
  unfold touchStep
  dsimp only [read_file, read_ver]
  split
  · have he := txTouch_of_queryable (x := x) (v := s.ver) (t := s.read.2.read.1) hq
    rw [he]
    exact ⟨_, rfl, rfl, fun m' hm' => ⟨_, queryable_setRows _ hm'⟩, fun P h => allRows_touch he h⟩
  · exact ⟨_, rfl, rfl, fun m' hm' => ⟨m'.rows, hm'⟩, fun _ h => h⟩

/-- When the lookup works, `afterInit` comes to one of three ends, from a state `s1` that differs from
    `s` by clock reads and `last_hit`s: the miss path of `finish`; a hit on a row that unpickles to a
    tree; an exception of `pickle.loads` that is not caught. -/
theorem afterInit_cases (cfg : Cfg) (pf : Ver → TextId → Option TreeId) (s : St) (x : TextId) (upd : Bool)
    (hq : s.file.queryable = some m) :
    ∃ s1, Touched s s1 ∧
      (afterInit cfg pf s x upd = finish cfg pf s1 x none ∨
       (∃ t, afterInit cfg pf s x upd = (s1, .value (some t)) ∧
          ∃ r ∈ rowsOf s.file, r.key = x ∧ r.ver = s.ver ∧ r.blob = .good (some t)) ∨
       ∃ e, cfg.isCaught e = false ∧ afterInit cfg pf s x upd = (s1, .raised (.unpickle e))) := by
  unfold afterInit
  cases hl : txLookup x s.ver s.file with
  | error e =>
    rw [txLookup_of_queryable hq] at hl
    cases hl
  | ok o =>
    cases o with
    | none => exact ⟨s, .refl s, .inl rfl⟩
    | some lb =>
      obtain ⟨lh, blob⟩ := lb
      obtain ⟨s1, hs1, ht⟩ := touchStep_spec s x upd lh hq
      refine ⟨s1, ht, ?_⟩
      simp only [hs1]
      cases blob with
      | good t =>
        cases t with
        | none => exact .inl rfl
        | some t => exact .inr (.inl ⟨t, rfl, txLookup_hit hl⟩)
      | bad e =>
        dsimp only
        cases hcg : cfg.isCaught e with
        | true => exact .inl (if_pos rfl)
        | false => exact .inr (.inr ⟨e, hcg, if_neg Bool.false_ne_true⟩)

theorem afterInit_allRows (hfresh : ∀ t, pf s.ver x = some t → P x s.ver (.good (some t))) (h : AllRows P s.file) :
    AllRows P (afterInit cfg pf s x upd).1.file := by
  cases hq : s.file.queryable with
  | none =>
    unfold afterInit
    rw [txLookup_of_not_queryable hq]
    exact h
  | some m =>
    obtain ⟨s1, ht, he | ⟨t, he, _⟩ | ⟨e, _, he⟩⟩ := afterInit_cases cfg pf s x upd hq
    · rw [he]
      exact finish_allRows (ht.ver ▸ hfresh) (ht.rows P h)
    · rw [he]
      exact ht.rows P h
    · rw [he]
      exact ht.rows P h

theorem afterInit_result (hc : CaughtAll cfg) (h : RowInv pf s) (hq : s.file.queryable = some m)
    (hw : m.layout ≠ .extraCol ∨ cfg.writeTolerant = true) :
    (afterInit cfg pf s x upd).2 = .value (pf s.ver x) := by
  obtain ⟨s1, ht, he | ⟨t, he, r, hr, hk, hv, hb⟩ | ⟨e, hcg, _⟩⟩ := afterInit_cases cfg pf s x upd hq
  · obtain ⟨rows, hq1⟩ := ht.queryable m hq
    rw [he, finish_none_result hq1 hw, ht.ver]
  · rw [he, ← hk, ← hv]
    exact congrArg Res.value (h r hr t hb).symm
  · rw [hc e] at hcg
    cases hcg

theorem afterInit_insertable (hq : Insertable s.file) : Insertable (afterInit cfg pf s x upd).1.file := by
  obtain ⟨m, hm, _⟩ := id hq
  obtain ⟨s1, ht, he | ⟨t, he, _⟩ | ⟨e, _, he⟩⟩ := afterInit_cases cfg pf s x upd hm
  · rw [he]
    exact finish_none_insertable (ht.insertable hq)
  · rw [he]
    exact ht.insertable hq
  · rw [he]
    exact ht.insertable hq

theorem afterInit_fresh (hc : CaughtAll cfg) (h : RowInv pf s) (hf : Fresh s s') :
    (afterInit cfg pf s' x upd).2 = .value (pf s.ver x) ∧ Insertable (afterInit cfg pf s' x upd).1.file := by
  obtain ⟨rows, hq⟩ := hf.queryable
  exact ⟨hf.ver ▸ afterInit_result hc (fileInv_iff.mpr ((fileInv_iff.mp h).of_sub hf.rows)) hq (.inl nofun),
    afterInit_insertable ⟨_, hq, nofun⟩⟩

/-- `parseCached` is `afterInit`: from `s` itself when the process holds the database initialised (and,
    with the recovery handler, can query it); otherwise from `s` freshly initialised. -/
theorem parseCached_cases (cfg : Cfg) (pf : Ver → TextId → Option TreeId) (s : St) (x : TextId) (days : Int)
    (upd : Bool) :
    (s.init = true ∧ (cfg.recover = true → s.file.queryable ≠ none) ∧
      parseCached cfg pf s x days upd = afterInit cfg pf s x upd) ∨
    ∃ s', Fresh s s' ∧ parseCached cfg pf s x days upd = afterInit cfg pf s' x upd := by
  unfold parseCached
  cases hi : s.init with
  | false =>
    obtain ⟨s', he, hf⟩ := initBlock_spec s days
    refine .inr ⟨s', hf, ?_⟩
    simp only [he, Bool.false_eq_true, if_false, Bool.and_false, Bool.false_and]
  | true =>
    simp only [if_true, Bool.and_true]
    split
    · obtain ⟨s', he, hf⟩ := initBlock_spec { s with init := false } days
      refine .inr ⟨s', ⟨hf.ver, hf.queryable, hf.rows⟩, ?_⟩
      simp only [he]
    · next hrec =>
      refine .inl ⟨trivial, fun hr hn => hrec ?_, rfl⟩
      rw [hr, hn]
      rfl

theorem parseCached_allRows (hfresh : ∀ t, pf s.ver x = some t → P x s.ver (.good (some t))) (h : AllRows P s.file) :
    AllRows P (parseCached cfg pf s x days upd).1.file := by
  obtain ⟨_, _, he⟩ | ⟨s', hf, he⟩ := parseCached_cases cfg pf s x days upd
  · rw [he]
    exact afterInit_allRows hfresh h
  · rw [he]
    exact afterInit_allRows (hf.ver ▸ hfresh) (h.of_sub hf.rows)

/-- if the process holds the database initialised, either the `models` table is fully usable (`Synced`) or
    the recovery handler of fix 821b239 will see that it cannot be queried (the other half of `Usable`) -/
def Ready (cfg : Cfg) (s : St) : Prop :=
  s.init = true → Insertable s.file ∨ cfg.recover = true ∧ s.file.queryable = none

theorem synced_ready (hs : Synced s) : Ready cfg s := fun hi => .inl (hs hi)

theorem usable_ready (hr : cfg.recover = true) (hu : Usable s) : Ready cfg s :=
  fun hi => (hu hi).elim (fun hn => .inr ⟨hr, hn⟩) .inl

theorem parseCached_spec (hc : CaughtAll cfg) (h : RowInv pf s) (hr : Ready cfg s) :
    (parseCached cfg pf s x days upd).2 = .value (pf s.ver x) ∧
    Insertable (parseCached cfg pf s x days upd).1.file := by
  obtain ⟨hi, hrec, he⟩ | ⟨s', hf, he⟩ := parseCached_cases cfg pf s x days upd
  · rw [he]
    rcases hr hi with hq | ⟨hr, hn⟩
    · obtain ⟨m, hm, hl⟩ := id hq
      exact ⟨afterInit_result hc h hm (.inl hl), afterInit_insertable hq⟩
    · exact absurd hn (hrec hr)
  · rw [he]
    exact afterInit_fresh hc h hf

/-- If the process holds the database initialised, a table that cannot be queried needs the recovery
    handler, and one that rejects the insert a tolerated write (fix 921daaa). -/
theorem parseCached_result (hc : CaughtAll cfg) (h : RowInv pf s)
    (hn : s.init = true → s.file.queryable = none → cfg.recover = true)
    (hw : ∀ m, s.init = true → s.file.queryable = some m → m.layout ≠ .extraCol ∨ cfg.writeTolerant = true) :
    (parseCached cfg pf s x days upd).2 = .value (pf s.ver x) := by
  obtain ⟨hi, hrec, he⟩ | ⟨s', hf, he⟩ := parseCached_cases cfg pf s x days upd
  · rw [he]
    cases hq : s.file.queryable with
    | none => exact absurd hq (hrec (hn hi hq))
    | some m => exact afterInit_result hc h hq (hw m hi hq)
  · rw [he]
    exact (afterInit_fresh hc h hf).1

theorem parseCached_result_tolerant (hc : CaughtAll cfg) (hr : cfg.recover = true) (hw : cfg.writeTolerant = true)
    (h : RowInv pf s) : (parseCached cfg pf s x days upd).2 = .value (pf s.ver x) :=
  parseCached_result hc h (fun _ _ => hr) fun _ _ _ => .inr hw

end Call

variable {cfg : Cfg}

theorem damaging_of_write {op : Op} (h : damagingWrite op = true) : damaging op = true := by
  unfold damagingWrite at h
  split at h
  · rfl
  · cases h

theorem step_parse {s : St} {x : TextId} {days : Int} {upd : Bool} (bypass : Bool)
    (h : (parseCached cfg pf s x days upd).2 = .value (pf s.ver x)) :
    (step cfg pf s (.parse x days upd bypass)).2 = some (.value (pf s.ver x)) := by
  simp only [step]
  split
  · rfl
  · exact congrArg some h

theorem allRows_step {P : TextId → Ver → Blob → Prop} {s : St} {op : Op}
    (hfresh : ∀ v x t, pf v x = some t → P x v (.good (some t)))
    (hplant : ∀ x v b, op = .corruptEntry x v b → P x v b) (h : AllRows P s.file) :
    AllRows P (step cfg pf s op).1.file := by
  cases op with
  | parse x days upd bypass =>
    simp only [step]
    split
    · exact h
    · exact parseCached_allRows (hfresh _ _) h
  | reload => exact h
  | setVersion v d => exact h
  | tick us => exact h
  | setInc us => exact h
  | corruptEntry x v b => exact allRows_damageEntry (hplant x v b rfl) h
  | corruptLayout t how => exact h.of_sub (rowsOf_damageLayout_sub t how s.file)
  | corruptFile how =>
    show ∀ r ∈ rowsOf (damageFile how), _
    rw [rowsOf_damageFile]
    exact List.forall_mem_nil _
  | foreignWrite x v d => exact allRows_foreignWrite (hfresh v x) h

theorem rowInv_step {s : St} {op : Op} (hadm : Admissible pf op) (h : RowInv pf s) : RowInv pf (step cfg pf s op).1 := by
  refine fileInv_iff.mpr (allRows_step (fun _ _ _ => okRow_fresh) ?_ (fileInv_iff.mp h))
  rintro x v b rfl t rfl
  exact hadm

theorem noNone_step {s : St} {op : Op} (hp : plantsNone op = false) (h : NoNone s.file) :
    NoNone (step cfg pf s op).1.file := by
  refine noNone_iff.mpr (allRows_step (fun _ _ _ _ => nofun) ?_ (noNone_iff.mp h))
  rintro x v b rfl rfl
  cases hp

/-- the layout of the `models` table if it can be queried; `Insertable`, and so `Synced` and `Usable`,
    depend on the file only through it -/
def layoutOf (f : DbFile) : Option Layout := f.queryable.map (·.layout)

theorem insertable_iff {f : DbFile} : Insertable f ↔ ∃ l, layoutOf f = some l ∧ l ≠ .extraCol := by
  unfold layoutOf
  constructor
  · rintro ⟨m, hq, hl⟩
    exact ⟨m.layout, by rw [hq]; rfl, hl⟩
  · rintro ⟨l, h, hl⟩
    obtain ⟨m, hq, rfl⟩ := Option.map_eq_some_iff.mp h
    exact ⟨m, hq, hl⟩

theorem queryable_none_iff {f : DbFile} : f.queryable = none ↔ layoutOf f = none :=
  Option.map_eq_none_iff.symm

theorem layoutOf_setRows (f : DbFile) (rows : List Row) : layoutOf (f.setRows rows) = layoutOf f := by
  cases f with
  | garbage => rfl
  | db m t =>
    cases m with
    | none => rfl
    | some mm =>
      show Option.map _ (if mm.layout = Layout.alien then none else some { mm with rows := rows }) =
        Option.map _ (if mm.layout = Layout.alien then none else some mm)
      split <;> rfl

theorem layoutOf_damageEntry (x : TextId) (v : Ver) (b : Blob) (f : DbFile) :
    layoutOf (damageEntry x v b f) = layoutOf f := by
  unfold damageEntry
  split
  · rfl
  · exact layoutOf_setRows ..

theorem layoutOf_foreignWrite (x : TextId) (v : Ver) (lh : Int) (f : DbFile) :
    layoutOf (foreignWrite pf x v lh f) = layoutOf f := by
  unfold foreignWrite
  split
  · rfl
  · split
    · next he =>
        obtain ⟨m, _, _, rfl⟩ := txInsert_ok he
        exact layoutOf_setRows ..
    · rfl

theorem layoutOf_damageLayout (t : Tbl) (how : LayoutDamage) (f : DbFile) :
    layoutOf (damageLayout t how f) = layoutOf f ∨
    (layoutOf (damageLayout t how f) = none ∧ damaging (.corruptLayout t how) = true) ∨
    layoutOf (damageLayout t how f) = some .noPk ∨ damagingWrite (.corruptLayout t how) = true := by
  cases f with
  | garbage => exact .inl rfl
  | db m mt =>
    cases t <;> cases how
    case models.drop | models.alien => exact .inr (.inl ⟨rfl, rfl⟩)
    case models.noPk => exact .inr (.inr (.inl rfl))
    case models.extraCol => exact .inr (.inr (.inr rfl))
    case models.delCreated | models.delPrune => exact .inl rfl
    all_goals exact .inl (by cases m <;> rfl)

/-- An operation other than a parse never makes the process hold the database initialised, and does one of
    four things to the layout: leaves it; takes it away (only a `damaging` operation does); makes it `noPk`;
    or is the write damage. -/
theorem layoutOf_step (s : St) (op : Op) :
    (∃ x d u b, op = .parse x d u b) ∨
    ((step cfg pf s op).1.init = true → s.init = true) ∧
    (layoutOf (step cfg pf s op).1.file = layoutOf s.file ∨
     (layoutOf (step cfg pf s op).1.file = none ∧ damaging op = true) ∨
     layoutOf (step cfg pf s op).1.file = some .noPk ∨ damagingWrite op = true) := by
  cases op with
  | parse x d u b => exact .inl ⟨x, d, u, b, rfl⟩
  | reload => exact .inr ⟨nofun, .inl rfl⟩
  | setVersion v d => exact .inr ⟨id, .inl rfl⟩
  | tick us => exact .inr ⟨id, .inl rfl⟩
  | setInc us => exact .inr ⟨id, .inl rfl⟩
  | corruptEntry x v b => exact .inr ⟨id, .inl (layoutOf_damageEntry ..)⟩
  | corruptLayout t how => exact .inr ⟨id, layoutOf_damageLayout t how s.file⟩
  | corruptFile how => exact .inr ⟨id, .inr (.inl ⟨by cases how <;> rfl, rfl⟩)⟩
  | foreignWrite x v d => exact .inr ⟨id, .inl (layoutOf_foreignWrite ..)⟩

theorem synced_step {s : St} {op : Op} (hc : CaughtAll cfg) (h : RowInv pf s) (hs : Synced s)
    (hd : damaging op = true → s.init = false) : Synced (step cfg pf s op).1 := by
  rcases layoutOf_step (cfg := cfg) (pf := pf) s op with ⟨x, days, upd, bypass, rfl⟩ | ⟨hinit, hlay⟩
  · simp only [step]
    split
    · exact hs
    · exact fun _ => (parseCached_spec hc h (synced_ready hs)).2
  · intro hi'
    have hi := hinit hi'
    obtain ⟨l, hl, hne⟩ := insertable_iff.mp (hs hi)
    rcases hlay with e | ⟨_, hdm⟩ | e | hdw
    · exact insertable_iff.mpr ⟨l, e ▸ hl, hne⟩
    · rw [hd hdm] at hi
      cases hi
    · exact insertable_iff.mpr ⟨_, e, nofun⟩
    · rw [hd (damaging_of_write hdw)] at hi
      cases hi

theorem usable_step {s : St} {op : Op} (hc : CaughtAll cfg) (hr : cfg.recover = true) (h : RowInv pf s) (hu : Usable s)
    (hd : damagingWrite op = true → s.init = false) : Usable (step cfg pf s op).1 := by
  rcases layoutOf_step (cfg := cfg) (pf := pf) s op with ⟨x, days, upd, bypass, rfl⟩ | ⟨hinit, hlay⟩
  · simp only [step]
    split
    · exact hu
    · exact fun _ => .inr (parseCached_spec hc h (usable_ready hr hu)).2
  · intro hi'
    have hi := hinit hi'
    rcases hlay with e | ⟨e, _⟩ | e | hdw
    · rcases hu hi with hn | hq
      · exact .inl (queryable_none_iff.mpr (e ▸ queryable_none_iff.mp hn))
      · obtain ⟨l, hl, hne⟩ := insertable_iff.mp hq
        exact .inr (insertable_iff.mpr ⟨l, e ▸ hl, hne⟩)
    · exact .inl (queryable_none_iff.mpr e)
    · exact .inr (insertable_iff.mpr ⟨_, e, nofun⟩)
    · rw [hd hdw] at hi
      cases hi

theorem initial_inv (t0 : Int) : RowInv pf (St.initial t0) := by
  intro r hr
  simp [St.initial, rowsOf] at hr

theorem initial_synced (t0 : Int) : Synced (St.initial t0) := by
  intro h
  simp [St.initial] at h

end PymocaVerif.ParseCache
