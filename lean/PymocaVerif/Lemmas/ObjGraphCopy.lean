import PymocaVerif.Lemmas.ObjGraph
/-!
`ObjGraph.copy` (the model of `copy.deepcopy` with pymoca's hooks) under the copy discipline of the
code under test (`Cfg.Good`: memo test by id, hooks leave no instance attribute).

`copy_spec` is total correctness by induction on the fuel: from the invariant `Inv` the call
succeeds and meets one postcondition, `Post`: the heap is only appended to, old memo entries stay,
and every new entry is a seed `a ↦ a` (the shared parent of the class whose hook ran) or maps an
object `own`-reachable from the start to its finished copy (`Done`).  The fuel of `deepcopySt`
suffices because every level of the recursion registers one more object of `H` in the memo
(`unmapped`).  `deepcopy_spec` is the statement for one whole `copy.deepcopy(x)`; `view_copy` and
`copy_ownReach_fresh` read off it that the copy looks like the original and is new.
-/
namespace PymocaVerif.ObjGraph

/-- `b` is the finished copy of `a`: the same object with every reference renamed through the memo -/
def Done (H : Heap) (st : St) (a b : Nat) : Prop :=
  ∃ o fs, H[a]? = some o ∧ renFields st.memo o.fields = some fs ∧
    st.heap[b]? = some { o with fields := fs, hook := none }

theorem Done.mono {H : Heap} {st st' : St} {a b : Nat} (hd : Done H st a b)
    (hm : MemoLe st.memo st'.memo) (hf : st.heap <+: st'.heap) : Done H st' a b := by
  obtain ⟨o, fs, ho, hr, hb⟩ := hd
  exact ⟨o, fs, ho, renFields_mono hm hr, by rw [prefix_get hf (lt_of_get hb)]; exact hb⟩

theorem Done.stable {H : Heap} {st st' : St} {a b : Nat} (hd : Done H st a b)
    (hm : MemoLe st.memo st'.memo) (hf : ∃ ex, st'.heap = st.heap ++ ex) : Done H st' a b := by
  obtain ⟨ex, hex⟩ := hf
  exact hd.mono hm ⟨ex, hex.symm⟩

theorem Done.set_ne {H : Heap} {st : St} {a b n : Nat} (hd : Done H st a b) (hn : n ≠ b) (o' : Obj) :
    Done H { st with heap := st.heap.set n o' } a b := by
  obtain ⟨o, fs, ho, hr, hb⟩ := hd
  exact ⟨o, fs, ho, hr, by rw [List.getElem?_set_ne hn]; exact hb⟩

/-- how many objects of the original heap are not in the memo yet -/
def unmapped (n : Nat) (m : Memo) : Nat :=
  (List.range n).countP fun a => (mget m a).isNone

theorem countP_lt {α : Type} {p q : α → Bool} {x : α} (hpq : ∀ a, p a = true → q a = true)
    (hq : q x = true) (hp : p x = false) {l : List α} (hx : x ∈ l) : l.countP p < l.countP q := by
  induction l with
  | nil => cases hx
  | cons a l ih =>
    have hle : l.countP p ≤ l.countP q := List.countP_mono_left fun a _ => hpq a
    rcases List.mem_cons.mp hx with rfl | hx
    · rw [List.countP_cons_of_pos hq, List.countP_cons_of_neg (by rw [hp]; decide)]
      exact Nat.lt_succ_of_le hle
    · rw [List.countP_cons, List.countP_cons]
      by_cases ha : p a = true
      · rw [if_pos ha, if_pos (hpq a ha)]
        exact Nat.add_lt_add_right (ih hx) 1
      · rw [if_neg ha]
        exact Nat.lt_of_lt_of_le (ih hx) (Nat.le_add_right _ _)

theorem unmapped_le_of_memoLe {n : Nat} {m m' : Memo} (hle : MemoLe m m') : unmapped n m' ≤ unmapped n m :=
  List.countP_mono_left fun _ _ => hle.isNone

theorem unmapped_push_lt {n : Nat} {m : Memo} {x y : Nat} (hx : mget m x = none) (hn : x < n) :
    unmapped n ((x, y) :: m) < unmapped n m :=
  countP_lt (fun _ => (MemoLe.push hx).isNone) (by rw [hx]; rfl) (by rw [mget_cons_self]; rfl)
    (List.mem_range.mpr hn)

theorem setHook_none_eq {h : Heap} {i : Nat} (hh : ∀ o, h[i]? = some o → o.hook = none) :
    setHook h i none = h := by
  unfold setHook
  cases hi : h[i]? with
  | none => rfl
  | some o =>
    obtain ⟨hlt, rfl⟩ := List.getElem?_eq_some_iff.mp hi
    have : ({ h[i] with hook := none } : Obj) = h[i] := by rw [← hh _ hi]
    simp only [this]
    exact List.set_getElem_self hlt

theorem rebind_removed_eq {h : Heap} {self y target : Nat}
    (hs : ∀ o, h[self]? = some o → o.hook = none) (hy : ∀ o, h[y]? = some o → o.hook = none) :
    rebind .removed h self y target = h := by
  simp only [rebind]
  rw [setHook_none_eq hs, setHook_none_eq hy]

section spec
variable {H : Heap} {R : Nat → Prop} {cfg : Cfg} {rec : St → Nat → Option (St × Nat)}

/-- that memo entries point at objects without per-instance hook is what lets the rebinding at the
    end of a hook write nothing -/
structure Inv (H : Heap) (R : Nat → Prop) (st : St) : Prop where
  pre : H <+: st.heap
  ent : ∀ a b, mget st.memo a = some b → R a ∧ ∃ o, st.heap[b]? = some o ∧ o.hook = none

theorem Inv.init (H : Heap) (R : Nat → Prop) : Inv H R { heap := H, memo := [] } :=
  { pre := List.prefix_refl H, ent := fun _ _ h => (nomatch h) }

theorem Inv.dom {st : St} (hi : Inv H R st) {a b : Nat} (h : mget st.memo a = some b) :
    R a ∧ b < st.heap.length :=
  let ⟨ha, _, ho, _⟩ := hi.ent a b h
  ⟨ha, lt_of_get ho⟩

theorem Inv.get_old {st : St} (hi : Inv H R st) (hR : Region H R) {a : Nat} (ha : R a) :
    st.heap[a]? = H[a]? :=
  prefix_get hi.pre (hR.lt ha)

theorem Inv.push {st : St} (hi : Inv H R st) {a b : Nat} {G : Heap} (ha : R a)
    (hext : st.heap <+: G) (hb : ∃ o, G[b]? = some o ∧ o.hook = none) :
    Inv H R { heap := G, memo := (a, b) :: st.memo } := by
  refine { pre := hi.pre.trans hext, ent := fun a' b' h => ?_ }
  rcases mget_cons_eq_some.mp h with ⟨rfl, rfl⟩ | ⟨_, h⟩
  · exact ⟨ha, hb⟩
  · obtain ⟨ha', o, ho, hk⟩ := hi.ent a' b' h
    exact ⟨ha', o, (prefix_get hext (lt_of_get ho)).trans ho, hk⟩

/-- `_reconstruct` allocates the empty object and registers it -/
theorem Inv.push_blank {st : St} (hi : Inv H R st) {x : Nat} (hx : R x) (o : Obj) :
    Inv H R { heap := st.heap ++ [blank o], memo := (x, st.heap.length) :: st.memo } :=
  hi.push hx (List.prefix_append _ _) ⟨blank o, List.getElem?_concat_length, rfl⟩

/-- `_reconstruct` fills the object in; it lies beyond the original heap -/
theorem Inv.set {st : St} (hi : Inv H R st) {n : Nat} (hn : H.length ≤ n)
    {o : Obj} (hk : o.hook = none) : Inv H R { st with heap := st.heap.set n o } := by
  refine { pre := prefix_set hi.pre hn o, ent := fun a b h => ?_ }
  obtain ⟨ha, o', ho', hk'⟩ := hi.ent a b h
  by_cases hnb : n = b
  · subst hnb
    exact ⟨ha, o, List.getElem?_set_self (lt_of_get ho'), hk⟩
  · exact ⟨ha, o', (List.getElem?_set_ne hnb).trans ho', hk'⟩

/-- What a computation started at `x` has done between `st` and `st'`.  Every memo entry it added is
    a seed `a ↦ a` with `S a`, or maps an object reachable from `x` to its finished, new copy. -/
structure Post (H : Heap) (R : Nat → Prop) (S : Nat → Prop) (x : Nat) (st st' : St) : Prop where
  inv : Inv H R st'
  ext : st.heap <+: st'.heap
  mono : MemoLe st.memo st'.memo
  new : ∀ a b, mget st'.memo a = some b → mget st.memo a = none →
    (b = a ∧ S a) ∨ (st.heap.length ≤ b ∧ Done H st' a b ∧ OwnReach H x a)

section Post
variable {S S' : Nat → Prop} {x x' : Nat} {s1 s2 s3 : St}

theorem Post.refl (hi : Inv H R s1) : Post H R S x s1 s1 :=
  { inv := hi, ext := List.prefix_refl _, mono := MemoLe.refl _
    new := fun a b h1 h2 => by rw [h2] at h1; cases h1 }

theorem Post.trans (p12 : Post H R S x s1 s2) (p23 : Post H R S x s2 s3) : Post H R S x s1 s3 := by
  refine { inv := p23.inv, ext := p12.ext.trans p23.ext, mono := p12.mono.trans p23.mono, new := ?_ }
  intro a b h3 h1
  cases h2 : mget s2.memo a with
  | none =>
    exact (p23.new a b h3 h2).imp_right fun ⟨hl, hd⟩ => ⟨Nat.le_trans p12.ext.length_le hl, hd⟩
  | some b' =>
    obtain rfl := Option.some.inj ((p23.mono a b' h2).symm.trans h3)
    exact (p12.new a b' h2 h1).imp_right fun ⟨hl, hd, hr⟩ => ⟨hl, hd.mono p23.mono p23.ext, hr⟩

theorem Post.weaken (p : Post H R S x s1 s2) (hS : ∀ a, mget s1.memo a = none → S a → S' a)
    (hx : ∀ a, OwnReach H x a → OwnReach H x' a) : Post H R S' x' s1 s2 :=
  { inv := p.inv, ext := p.ext, mono := p.mono
    new := fun a b h2 h1 => (p.new a b h2 h1).imp (fun ⟨e, hs⟩ => ⟨e, hS a h1 hs⟩)
      fun ⟨hl, hd, hr⟩ => ⟨hl, hd, hx a hr⟩ }

end Post

/-- `a` is the parent that the class `x` names (only claimed for tree-shaped regions) -/
def SeedOf (H : Heap) (R : Nat → Prop) (x a : Nat) : Prop :=
  TreeShaped H R → ∃ o, H[x]? = some o ∧ o.kind = .cls ∧ parentOfFields o.fields = some a

/-- specification of `copy.deepcopy(x, memo)`: `x` is in the memo afterwards; a memo hit changes nothing -/
structure CallPost (H : Heap) (R : Nat → Prop) (x : Nat) (st st' : St) (y : Nat) : Prop where
  post : Post H R (SeedOf H R x) x st st'
  res : mget st'.memo x = some y
  hit : ∀ y0, mget st.memo x = some y0 → st' = st

theorem CallPost.ofHit {x y : Nat} {st : St} (hi : Inv H R st)
    (h : mget st.memo x = some y) : CallPost H R x st st y :=
  { post := Post.refl hi, res := h, hit := fun _ _ => rfl }

/-- what is assumed of the recursive call and proved of `copy`: with more fuel than objects missing
    from the memo, the call succeeds and meets `CallPost` -/
def RecSpec (H : Heap) (R : Nat → Prop) (f : Nat) (rec : St → Nat → Option (St × Nat)) : Prop :=
  ∀ ⦃st x⦄, Inv H R st → R x → unmapped H.length st.memo < f →
    ∃ st' y, rec st x = some (st', y) ∧ CallPost H R x st st' y

variable {f : Nat}

/-- The attribute loop of `_reconstruct` for object `a0`, which is in the memo already, as are the
    parents it names (so a `par` attribute is a memo hit).  In a tree-shaped region it seeds nothing:
    a class below `a0` names `a0` as its parent. -/
theorem copyFields_spec (hR : Region H R) (hrec : RecSpec H R f rec)
    {a0 : Nat} {o0 : Obj} (ha0 : R a0) (ho0 : H[a0]? = some o0)
    {fs : List Field} {st : St} (hi : Inv H R st) (hsub : fs ⊆ o0.fields)
    (hin : (mget st.memo a0).isSome) (hpar : ∀ i, Field.par i ∈ fs → (mget st.memo i).isSome)
    (hlt : unmapped H.length st.memo < f) :
    ∃ st' gs, copyFields rec st fs = some (st', gs) ∧
      Post H R (fun _ => ¬ TreeShaped H R) a0 st st' ∧ renFields st'.memo fs = some gs := by
  induction fs generalizing st with
  | nil => exact ⟨st, [], rfl, Post.refl hi, rfl⟩
  | cons g fs ih =>
    obtain ⟨hmem, hsub'⟩ := List.cons_subset.mp hsub
    have hpar' : ∀ i, Field.par i ∈ fs → (mget st.memo i).isSome :=
      fun i hi' => hpar i (List.mem_cons_of_mem _ hi')
    cases g with
    | scp i =>
      obtain ⟨st', gs, hc, p, hren⟩ := ih hi hsub' hin hpar' hlt
      exact ⟨st', .scp i :: gs, by simp only [copyFields, hc], p, renFields_cons rfl hren⟩
    | own i =>
      obtain ⟨st1, j, hr, c⟩ := hrec (x := i) hi (hR.closed a0 o0 _ ha0 ho0 hmem) hlt
      obtain ⟨st', gs, hc, p, hren⟩ := ih c.post.inv hsub' (c.post.mono.isSome hin)
        (fun k hk => c.post.mono.isSome (hpar' k hk))
        (Nat.lt_of_le_of_lt (unmapped_le_of_memoLe c.post.mono) hlt)
      refine ⟨st', .own j :: gs, by simp only [copyFields, hr, hc],
        (c.post.weaken ?_ fun a ha => OwnReach.head ⟨o0, ho0, hmem⟩ ha).trans p,
        renFields_cons (renField_own (p.mono i j c.res)) hren⟩
      -- a seed would be the parent of the class `i`, that is `a0`, which is in the memo
      intro a hna hseed hts
      obtain ⟨oi, hoi, hk, hpo⟩ := hseed hts
      have := hts a0 i o0 oi ha0 ho0 hmem hoi hk
      rw [hpo] at this
      cases this
      rw [hna] at hin
      cases hin
    | par i =>
      obtain ⟨st1, j, hr, c⟩ := hrec (x := i) hi (hR.closed a0 o0 _ ha0 ho0 hmem) hlt
      obtain ⟨y0, hm⟩ := Option.isSome_iff_exists.mp (hpar i List.mem_cons_self)
      obtain rfl := c.hit y0 hm
      obtain ⟨st', gs, hc, p, hren⟩ := ih hi hsub' hin hpar' hlt
      exact ⟨st', .par j :: gs, by simp only [copyFields, hr, hc], p,
        renFields_cons (renField_par (p.mono i j c.res)) hren⟩

/-- registering the placeholder takes `x` off the objects still to be copied, which pays for the
    recursive calls of the attribute loop -/
theorem reconstruct_spec (hR : Region H R) (hrec : RecSpec H R f rec)
    {st : St} {x : Nat} {o : Obj} (hi : Inv H R st) (hx : R x) (ho : H[x]? = some o)
    (hnone : mget st.memo x = none) (hpar : ∀ i, Field.par i ∈ o.fields → (mget st.memo i).isSome)
    (hlt : unmapped H.length st.memo < f + 1) :
    ∃ st' y, reconstruct rec st x o = some (st', y) ∧ CallPost H R x st st' y := by
  have hpush : MemoLe st.memo ((x, st.heap.length) :: st.memo) := MemoLe.push hnone
  obtain ⟨st2, fs, hc, p, hren⟩ := copyFields_spec hR hrec hx ho (hi.push_blank hx o) (List.Subset.refl _)
    (by rw [mget_cons_self]; rfl) (fun i hi' => hpush.isSome (hpar i hi'))
    (Nat.lt_of_lt_of_le (unmapped_push_lt hnone (hR.lt hx)) (Nat.le_of_lt_succ hlt))
  have hlen : st.heap.length < st2.heap.length :=
    Nat.lt_of_lt_of_le (by rw [List.length_append]; exact Nat.lt_succ_self _) p.ext.length_le
  have hres : mget st2.memo x = some st.heap.length := p.mono x _ mget_cons_self
  rw [reconstruct, hc]
  refine ⟨_, _, rfl, { post := ?_, res := hres, hit := fun y0 hy => by rw [hnone] at hy; cases hy }⟩
  refine { inv := p.inv.set hi.pre.length_le rfl
           ext := prefix_set ((List.prefix_append _ _).trans p.ext) (Nat.le_refl _) _
           mono := hpush.trans p.mono, new := ?_ }
  intro a b hab hna
  by_cases hxa : x = a
  · subst hxa
    obtain rfl := Option.some.inj (hres.symm.trans hab)
    exact Or.inr ⟨Nat.le_refl _, ⟨o, fs, ho, hren, List.getElem?_set_self hlen⟩, OwnReach.refl x⟩
  · rcases p.new a b hab (by rw [mget_cons_ne hxa]; exact hna) with ⟨rfl, hS⟩ | ⟨hl, hd, hr⟩
    · exact Or.inl ⟨rfl, fun hts => absurd hts hS⟩
    · -- copies made by the loop lie beyond the placeholder, so filling it in does not touch them
      have hlb : st.heap.length < b := by rw [List.length_append] at hl; exact hl
      exact Or.inr ⟨Nat.le_of_lt hlb, hd.set_ne (Nat.ne_of_lt hlb) _, hr⟩

theorem seed_spec (hR : Region H R) (hg : cfg.memoTest = .byId)
    {st : St} {x : Nat} {o : Obj} (hi : Inv H R st) (hx : R x) (ho : H[x]? = some o) :
    Post H R (fun a => o.kind = .cls ∧ parentOfFields o.fields = some a) x st (seed cfg st o) ∧
      ∀ i, Field.par i ∈ o.fields → (mget (seed cfg st o).memo i).isSome := by
  have hpar := fun i hi' => (hR.parU x o i hx ho hi').2
  fun_cases seed cfg st o with
  | case1 hk p hp _ hs =>
    exact ⟨Post.refl hi, fun i hi' => by cases hp.symm.trans (hpar i hi'); exact hs⟩
  | case2 hk p hp _ hs =>
    have hnone := Option.not_isSome_iff_eq_none.mp hs
    have hRp : R p := hR.closed x o _ hx ho (parentOfFields_mem hp)
    refine ⟨{ inv := ?_, ext := List.prefix_refl _, mono := MemoLe.push hnone, new := ?_ }, ?_⟩
    · obtain ⟨op, hop⟩ := hR.valid p hRp
      exact hi.push hRp (List.prefix_refl _) ⟨op, (hi.get_old hR hRp).trans hop, hR.hooks p op hRp hop⟩
    · intro a b hab hna
      rcases mget_cons_eq_some.mp hab with ⟨rfl, rfl⟩ | ⟨_, hab⟩
      · exact Or.inl ⟨rfl, hk, hp⟩
      · rw [hna] at hab
        cases hab
    · intro i hi'
      obtain rfl := Option.some.inj ((hpar i hi').symm.trans hp)
      rw [mget_cons_self]
      rfl
  | case3 hk p hp hobj =>
    rw [hg] at hobj
    cases hobj
  | case4 hk hp => exact ⟨Post.refl hi, fun i hi' => nomatch hp.symm.trans (hpar i hi')⟩
  | case5 hk => exact ⟨Post.refl hi, fun i hi' => absurd (hR.parU x o i hx ho hi').1 hk⟩

theorem viaHook_spec (hR : Region H R) (hg : cfg.Good) (hrec : RecSpec H R f rec)
    {st : St} {x : Nat} (hi : Inv H R st) (hx : R x) (hnone : mget st.memo x = none)
    (hlt : unmapped H.length st.memo < f + 1) :
    ∃ st' y, viaHook cfg rec st x = some (st', y) ∧ CallPost H R x st st' y := by
  obtain ⟨hmemo, hhook, harg⟩ := hg
  obtain ⟨o, ho⟩ := hR.valid x hx
  obtain ⟨sp, hparIn⟩ := seed_spec hR (cfg := cfg) hmemo hi hx ho
  obtain ⟨st1, y, hin, c⟩ : ∃ st1 y, hookInner cfg rec st x o = some (st1, y) ∧
      CallPost H R x (seed cfg st o) st1 y := by
    cases hm : mget (seed cfg st o).memo x with
    | some y0 => exact ⟨_, y0, by rw [hookInner, hm], CallPost.ofHit sp.inv hm⟩
    | none =>
      rw [hookInner, hm]
      exact reconstruct_spec hR hrec sp.inv hx ho hm hparIn
        (Nat.lt_of_le_of_lt (unmapped_le_of_memoLe sp.mono) hlt)
  obtain ⟨_, oy, hoy, hky⟩ := c.post.inv.ent x y c.res
  have hheap : rebind (if o.kind = .cls then cfg.hookRebind else cfg.argRebind) st1.heap x y (o.hook.getD x)
      = st1.heap := by
    rw [hhook, harg, ite_self]
    exact rebind_removed_eq
      (fun o' ho' => hR.hooks x o' hx (by rw [← c.post.inv.get_old hR hx]; exact ho'))
      (fun o' ho' => by cases hoy.symm.trans ho'; exact hky)
  refine ⟨st1, y, by simp only [viaHook, (hi.get_old hR hx).trans ho, hin, hheap],
    { post := (sp.weaken (fun a _ hS _ => ⟨o, ho, hS⟩) fun _ ha => ha).trans c.post, res := c.res
      hit := fun y0 hy => by rw [hnone] at hy; cases hy }⟩

theorem copy_spec (hR : Region H R) (hg : cfg.Good) (f : Nat) : RecSpec H R f (copy cfg f) := by
  induction f with
  | zero =>
    intro st x _ _ h
    exact absurd h (Nat.not_lt_zero _)
  | succ f ih =>
    intro st x hi hx hlt
    cases hm : mget st.memo x with
    | some y0 => exact ⟨st, y0, by simp only [copy, hm], CallPost.ofHit hi hm⟩
    | none =>
      obtain ⟨o, ho⟩ := hR.valid x hx
      have hso : st.heap[x]? = some o := (hi.get_old hR hx).trans ho
      by_cases hk : o.kind = .cls ∨ o.kind = .arg
      · obtain ⟨st1, y, hv, c⟩ := viaHook_spec hR hg ih hi hx hm hlt
        refine ⟨st1, y, ?_, c⟩
        simp only [copy, hm, hso, if_pos hk, hR.hooks x o hx ho, Option.getD_none, hv, if_pos (Or.inr c.res)]
      · simp only [copy, hm, hso, if_neg hk]
        exact reconstruct_spec hR ih hi hx ho hm
          (fun i hi' => absurd (Or.inl (hR.parU x o i hx ho hi').1) hk) hlt

end spec

/-- What one whole `copy.deepcopy(x)` on `H` leaves: `CallPost` from the start state
    `{ heap := H, memo := [] }`.  With the empty memo every entry is new, so the two cases of `Post.new`
    are stated per entry (`entries`, `reach`, `seeds`), and of `Inv` only `dom` is kept. -/
structure CopyOut (H : Heap) (R : Nat → Prop) (x : Nat) (st' : St) (y : Nat) : Prop where
  frame : ∃ ex, st'.heap = H ++ ex
  res : mget st'.memo x = some y
  dom : ∀ a b, mget st'.memo a = some b → R a ∧ b < st'.heap.length
  entries : ∀ a b, mget st'.memo a = some b → b = a ∨ (H.length ≤ b ∧ Done H st' a b)
  reach : ∀ a b, mget st'.memo a = some b → b ≠ a → OwnReach H x a
  seeds : TreeShaped H R → ∀ a, mget st'.memo a = some a →
    ∃ o, H[x]? = some o ∧ o.kind = .cls ∧ parentOfFields o.fields = some a

theorem CopyOut.ext {H : Heap} {R : Nat → Prop} {x y : Nat} {st' : St} (out : CopyOut H R x st' y) :
    H <+: st'.heap := by
  obtain ⟨ex, hex⟩ := out.frame
  exact ⟨ex, hex.symm⟩

theorem deepcopy_spec {H : Heap} {R : Nat → Prop} (hR : Region H R) {cfg : Cfg} (hg : cfg.Good)
    {x : Nat} (hx : R x) : ∃ st' y, deepcopySt cfg H x = some (st', y) ∧ CopyOut H R x st' y := by
  obtain ⟨st', y, h, c⟩ := copy_spec hR hg (H.length + 1) (Inv.init H R) hx
    (Nat.lt_succ_of_le (Nat.le_trans List.countP_le_length (Nat.le_of_eq List.length_range)))
  have hnew := fun a b hab => c.post.new a b hab rfl
  obtain ⟨ex, hex⟩ := c.post.ext
  refine ⟨st', y, h, { frame := ⟨ex, hex.symm⟩, res := c.res, dom := fun _ _ => c.post.inv.dom
                       entries := fun a b hab => (hnew a b hab).imp And.left fun ⟨hl, hd, _⟩ => ⟨hl, hd⟩
                       reach := ?_, seeds := ?_ }⟩
  · intro a b hab hne
    rcases hnew a b hab with ⟨e, _⟩ | ⟨_, _, hr⟩
    · exact absurd e hne
    · exact hr
  · intro hts a hab
    rcases hnew a a hab with ⟨_, hs⟩ | ⟨hl, _⟩
    · exact hs hts
    · exact absurd (hR.lt (c.post.inv.dom hab).1) (Nat.not_lt.mpr hl)

theorem deepcopy_eq_some {cfg : Cfg} {H H' : Heap} {x y : Nat} :
    deepcopy cfg H x = some (H', y) ↔ ∃ st', deepcopySt cfg H x = some (st', y) ∧ st'.heap = H' := by
  rw [deepcopy]
  constructor
  · intro h
    split at h
    · cases h
      exact ⟨_, ‹_›, rfl⟩
    · cases h
  · rintro ⟨st', hs, rfl⟩
    simp only [hs]

theorem deepcopySt_spec {H : Heap} {R : Nat → Prop} (hR : Region H R) {cfg : Cfg} (hg : cfg.Good)
    {x y : Nat} {st' : St} (hx : R x) (h : deepcopySt cfg H x = some (st', y)) : CopyOut H R x st' y := by
  obtain ⟨st1, y1, h1, out⟩ := deepcopy_spec hR hg hx
  cases h.symm.trans h1
  exact out

theorem view_copy {H : Heap} {R : Nat → Prop} (hR : Region H R) {x y : Nat} {st' : St}
    (out : CopyOut H R x st' y) {G : Heap} (hG : st'.heap <+: G) (k : Nat) {a b : Nat}
    (hab : mget st'.memo a = some b) : view G k b = view H k a := by
  have hold := view_agree hR (hR.agreeOn_of_prefix (out.ext.trans hG))
  induction k generalizing a b with
  | zero => rfl
  | succ k ih =>
    have ha : R a := (out.dom a b hab).1
    rcases out.entries a b hab with rfl | ⟨_, o, fs, ho, hren, hb⟩
    · exact hold (k + 1) _ ha
    · rw [view_succ, view_succ, prefix_get hG (lt_of_get hb), hb, ho]
      simp only
      congr 1
      -- field by field: a renamed reference points to the copy of what the original points to
      refine renFields_map hren fun f hf g hfg => ?_
      obtain ⟨htag, rfl | hm⟩ := renField_inv hfg
      · rw [hold k g.id (hR.closed a o g ha ho hf)]
      · rw [htag, ih hm]

/-- What the copy reaches through `own` references is new, also after the heap has grown further:
    every such object is the copy of an object below `x`, and no entry on the way is a seed, because
    the only seed is the parent of `x`, which nothing below `x` refers to. -/
theorem copy_ownReach_fresh {H : Heap} {R : Nat → Prop} {x y : Nat} {st' : St}
    (out : CopyOut H R x st' y) (hts : TreeShaped H R) (hd : Detached H x) {G : Heap}
    (hG : st'.heap <+: G) {i : Nat} (hi : OwnReach G y i) : H.length ≤ i ∧ i < st'.heap.length := by
  have hmemo : ∃ a, OwnReach H x a ∧ mget st'.memo a = some i ∧ i ≠ a := by
    induction hi with
    | refl =>
      refine ⟨x, OwnReach.refl x, out.res, fun hyx => ?_⟩
      obtain ⟨o, ho, _, hp⟩ := out.seeds hts x (hyx ▸ out.res)
      exact (hd o x ho hp).1 rfl
    | @step b c _ e ih =>
      obtain ⟨a, hra, hma, hne⟩ := ih
      obtain ⟨ob, hob, hc⟩ := e
      obtain ⟨_, o, fs, ho, hren, hb⟩ := (out.entries a b hma).resolve_left hne
      rw [prefix_get hG (lt_of_get hb)] at hob
      obtain rfl := Option.some.inj (hb.symm.trans hob)
      obtain ⟨i0, hf, hm0⟩ := renFields_mem_inv hren hc
      have hedge : OwnEdge H a i0 := ⟨o, ho, hf⟩
      refine ⟨i0, OwnReach.step hra hedge, hm0, fun hci => ?_⟩
      obtain ⟨ox, hox, _, hp⟩ := out.seeds hts i0 (hci ▸ hm0)
      exact (hd ox i0 hox hp).2 a hra hedge
  obtain ⟨a, _, hm, hne⟩ := hmemo
  exact ⟨((out.entries a i hm).resolve_left hne).1, (out.dom a i hm).2⟩

end PymocaVerif.ObjGraph
