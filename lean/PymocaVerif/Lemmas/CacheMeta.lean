import PymocaVerif.Model.CacheMeta
/-!
Facts about `Model/CacheMeta.lean` behind C19.  Row bookkeeping: the rows `load_model` reads for a
variable are the rows `save_model`'s metadata function holds for it.  Delay durations: each set
of symbols the loader keeps symbolic contains those the duration reads.  Attribute expressions:
one without a parameter symbol has the same value at every parameter vector.
-/
namespace PymocaVerif.CacheMeta

/-- Element-wise relation of two lists of equal length.  This is Mathlib's `List.Forall₂`, written
    out here because C19 imports nothing outside core. -/
inductive All2 {α β : Type} (R : α → β → Prop) : List α → List β → Prop
  | nil : All2 R [] []
  | cons {a b as bs} : R a b → All2 R as bs → All2 R (a :: as) (b :: bs)

theorem All2.length_eq {α β : Type} {R : α → β → Prop} {as : List α} {bs : List β} (h : All2 R as bs) :
    as.length = bs.length := by
  induction h with
  | nil => rfl
  | cons _ _ ih => simp [ih]

theorem All2.get {α β : Type} {R : α → β → Prop} {as : List α} {bs : List β} (h : All2 R as bs)
    (i : Nat) (h1 : i < as.length) : ∃ h2 : i < bs.length, R as[i] bs[i] := by
  induction h generalizing i with
  | nil => cases h1
  | cons hab _ ih =>
    cases i with
    | zero => exact ⟨Nat.zero_lt_succ _, hab⟩
    | succ i =>
      obtain ⟨h2, hr⟩ := ih i (Nat.lt_of_succ_lt_succ h1)
      exact ⟨Nat.succ_lt_succ h2, hr⟩

theorem All2.zip_map {α β γ δ : Type} {R : α → β → Prop} {S : β → γ → Prop} {T : α → δ → Prop}
    (g : α × γ → δ) (h : ∀ a b c, R a b → S b c → T a (g (a, c)))
    {as : List α} {bs : List β} {cs : List γ} (h1 : All2 R as bs) (h2 : All2 S bs cs) :
    All2 T as ((as.zip cs).map g) := by
  induction h1 generalizing cs with
  | nil =>
    cases h2
    exact .nil
  | cons hr _ ih =>
    cases h2 with
    | cons hs hss => exact .cons (h _ _ _ hr hs) (ih hss)

variable {P E V : Type} [Inhabited V]

/-- the element values `load_model` must reproduce for an `MX` attribute: one per scalar
    element, a scalar attribute being repeated (`repmat`) -/
def broadcast (n : Nat) (l : List V) : List V := (List.range n).map (pick l)

/-- Agreement of a loaded attribute with the original one.  An `MX_INDEPENDENT` attribute
    (`dep = false`) is loaded from the NaN call, so it agrees only at the parameter vectors
    where the original has its value at `nanEnv`: all of them under `AttrWF`. -/
def AttrOk (nanEnv : E) (n : Nat) (a : Attr P E V) (la : LAttr P E V) : Prop :=
  match a with
  | .py p => la = .py (some p)
  | .mx dep f => ∃ g, la = .mx g ∧ ∀ e, (dep = false → f e = f nanEnv) → g e = broadcast n (f e)

/-- `MX_INDEPENDENT` attributes do not change with the parameters (what CasADi's
    `is_constant()` / `depends_on` promise). -/
def AttrWF (nanEnv : E) : Attr P E V → Prop
  | .mx false f => ∀ e, f e = f nanEnv
  | _ => True

structure Matches (nA : Nat) (nanEnv : E) (v : Var P E V) (lv : LVar P E V) : Prop where
  name : lv.name = v.name
  rows : lv.rows = v.rows
  cols : lv.cols = v.cols
  pyType : lv.pyType = v.pyType
  aliases : lv.aliases = v.aliases
  attrs : ∀ j, j < nA → AttrOk nanEnv v.numel (v.attrs j) (lv.attrs j)

theorem length_rowsOf (nA : Nat) (embed : P → List V) (v : Var P E V) (e : E) :
    (rowsOf nA embed v e).length = v.numel := by
  simp [rowsOf]

theorem colSlice_rowsOf {nA : Nat} {embed : P → List V} {v : Var P E V} {e : E}
    {pre post : List (List V)} {j : Nat} (hj : j < nA) :
    colSlice (pre ++ (rowsOf nA embed v e ++ post)) pre.length v.numel j
      = (List.range v.numel).map (fun k => elemOf embed (v.attrs j) e k) := by
  unfold colSlice
  rw [List.drop_left]
  rw [List.take_left' (length_rowsOf nA embed v e)]
  simp only [rowsOf, List.map_map]
  apply List.map_congr_left
  intro k _
  simp [Function.comp, List.getD, hj]

/-- With `row` rows (`pre`) of earlier variables in front, the loop reads for every variable
    exactly its own rows. -/
theorem loadVars_matches (nA : Nat) (embed : P → List V) (nanEnv : E) (metaFn : E → List (List V))
    (vars : List (Var P E V)) (row : Nat) (pre : E → List (List V))
    (hpre : ∀ e, (pre e).length = row) (hmeta : ∀ e, metaFn e = pre e ++ metaOf nA embed vars e) :
    All2 (Matches nA nanEnv) vars
      (loadVars nanEnv metaFn row (vars.map toDict) (vars.map (fun v j => classify (v.attrs j)))) := by
  induction vars generalizing row pre with
  | nil => exact All2.nil
  | cons v rest ih =>
    simp only [List.map_cons, loadVars]
    refine All2.cons ?_ ?_
    · refine ⟨rfl, rfl, rfl, rfl, rfl, ?_⟩
      intro j hj
      cases hattr : v.attrs j with
      | py p => simp only [AttrOk, classify, toDict, hattr]
      | mx dep f =>
        have hb : ∀ e, colSlice (metaFn e) row (toDict v).numel j = broadcast v.numel (f e) := by
          intro e
          rw [hmeta e, ← hpre e]
          simp only [metaOf, List.flatMap_cons]
          exact (colSlice_rowsOf hj).trans (by rw [hattr]; rfl)
        cases dep with
        | true =>
          simp only [AttrOk, classify, hattr]
          exact ⟨_, rfl, fun e _ => hb e⟩
        | false =>
          simp only [AttrOk, classify, hattr]
          exact ⟨_, rfl, fun e hc => by rw [hb nanEnv, hc trivial]⟩
    · apply ih (row + (toDict v).numel) (fun e => pre e ++ rowsOf nA embed v e)
      · intro e
        rw [List.length_append, hpre e, length_rowsOf]
        rfl
      · intro e
        rw [hmeta e]
        simp only [metaOf, List.flatMap_cons, List.append_assoc]

theorem loadVars_row0 (nanEnv : E) (metaFn : E → List (List V)) (vars : List (Var P E V)) (row : Nat) :
    (loadVars nanEnv metaFn row (vars.map toDict) (vars.map fun v j => classify (v.attrs j))).map (·.row0)
      = (List.range vars.length).map fun i => row + ((vars.take i).map Var.numel).sum := by
  induction vars generalizing row with
  | nil => rfl
  | cons v rest ih =>
    simp only [List.map_cons, loadVars, List.length_cons, List.range_succ_eq_map, List.map_map, ih]
    exact congrArg (row :: ·) (List.map_congr_left fun i _ => Nat.add_assoc ..)

/-- `f` reads only the symbols in `S`. -/
def DependsOnly (f : (Nat → V) → V) (S : List Nat) : Prop :=
  ∀ env env' : Nat → V, (∀ k, k ∈ S → env k = env' k) → f env = f env'

/-- what `maskSets` promises for one duration: nothing kept only if nothing is needed,
    otherwise everything needed is kept -/
def MaskOk (dd : List Nat) : Option (List Nat) → Prop
  | none => dd = []
  | some T => ∀ k, k ∈ dd → k ∈ T

theorem maskSets_sound (union : List Nat) (dds : List (List Nat)) (cur : Nat)
    (h : ∀ dd, dd ∈ dds → ∀ k, k ∈ dd → k ∈ union) : All2 MaskOk dds (maskSets union cur dds) := by
  induction dds generalizing cur with
  | nil => exact All2.nil
  | cons dd rest ih =>
    have hrest : ∀ d, d ∈ rest → ∀ k, k ∈ d → k ∈ union := fun d hd => h d (List.mem_cons_of_mem _ hd)
    unfold maskSets
    split
    · next he => exact All2.cons (List.isEmpty_iff.1 he) (ih cur hrest)
    · split
      · exact All2.cons (fun _ hk => hk) (ih _ hrest)
      · exact All2.cons (h dd (List.mem_cons_self ..)) (ih cur hrest)

theorem mem_unionOf (dds : List (List Nat)) (dd : List Nat) (hd : dd ∈ dds) (k : Nat) (hk : k ∈ dd) :
    k ∈ unionOf dds := by
  simp only [unionOf, List.mem_eraseDups, List.mem_flatMap, id]
  exact ⟨dd, hd, hk⟩

omit [Inhabited V] in
theorem DependsOnly.maskEnv {f : (Nat → V) → V} {dd T : List Nat} (h : DependsOnly f dd)
    (hT : ∀ k, k ∈ dd → k ∈ T) (nan : V) (env : Nat → V) : f (maskEnv nan T env) = f env :=
  h _ _ fun k hk => by simp [CacheMeta.maskEnv, hT k hk]

theorem PExpr.eval_indep (e : PExpr) (h : e.hasParam = false) (env env' : Nat → Option Int) :
    e.eval env = e.eval env' := by
  induction e with
  | const v => rfl
  | nan => rfl
  | param k => cases h
  | neg a ih => simp only [PExpr.eval, ih h]
  | add a b iha ihb | sub a b iha ihb | mul a b iha ihb =>
    simp only [PExpr.hasParam, Bool.or_eq_false_iff] at h
    simp only [PExpr.eval, iha h.1, ihb h.2]

theorem evals_indep (es : List PExpr) (h : es.any PExpr.hasParam = false) (env env' : Nat → Option Int) :
    es.map (PExpr.eval env) = es.map (PExpr.eval env') :=
  List.map_congr_left fun e he =>
    e.eval_indep (eq_false_of_ne_true (List.any_eq_false.1 h e he)) env env'

end PymocaVerif.CacheMeta
