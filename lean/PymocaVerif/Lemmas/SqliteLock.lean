import PymocaVerif.Model.SqliteLock
/-! Lemmas for C02.  Everything rests on four facts about `next`: `next_ok` and `next_work` (invariants
    of one connection, lifted to all of them by `step_pointwise` and to every schedule by
    `run_invariant`), `next_lock_isW` (single writer) and `next_eq_self` (progress).  The four are proved
    the same way: take the connection apart, split on the statement and, where `next` looks at it, on
    the lock and the flags it tests.  Then `next`, `okFrom` and `workFrom` compute, and every branch
    is closed by a hypothesis as it stands.  (Unfolding `next` with `simp` over the product of all
    cases is far slower to check.) -/
namespace PymocaVerif.SqliteLock

/-- the lock as the static check `okFrom` knows it: PENDING is held only between the two halves of a
    COMMIT, where the path has not moved on, so it counts as RESERVED -/
def absL : Lock → Lock
  | .pending => .reserved
  | l => l

/-- per-connection invariant: not failed, and the rest of its path is fine from where it stands;
    a held lock implies an open transaction; a PENDING holder is at its COMMIT. -/
def ConnOk (p : Path) (c : Conn) : Prop :=
  c.failed = false ∧ okFrom (absL c.lock) c.inTxn ((p.drop c.pc).map (·.1)) = true ∧
  (c.lock ≠ .none → c.inTxn = true) ∧
  (c.lock = .pending → ∃ g r, p.drop c.pc = (.commit, g) :: r)

theorem ConnOk.notFailed {p c} (h : ConnOk p c) : c.failed = false := h.1

theorem ConnOk.ok {p c} (h : ConnOk p c) : okFrom (absL c.lock) c.inTxn ((p.drop c.pc).map (·.1)) = true := h.2.1

theorem ConnOk.inTxn {p c} (h : ConnOk p c) : c.lock ≠ .none → c.inTxn = true := h.2.2.1

theorem ConnOk.atCommit {p c} (h : ConnOk p c) : c.lock = .pending → ∃ g r, p.drop c.pc = (.commit, g) :: r :=
  h.2.2.2

theorem drop_cons {α} {l : List α} {n : Nat} {a : α} {r : List α} (h : l.drop n = a :: r) :
    l.drop (n + 1) = r := by
  rw [← List.drop_drop, h]
  rfl

theorem upd_same (st : State) (i : Nat) (c : Conn) : upd st i c i = c := if_pos rfl

theorem upd_other {st : State} {i j : Nat} (c : Conn) (h : j ≠ i) : upd st i c j = st j := if_neg h

theorem run_invariant {I : State → Prop} {pr : Nat → Path}
    (hstep : ∀ {st i st'}, I st → Step pr st i st' → I st') {st0 sched st}
    (h : Run pr st0 sched st) : I st0 → I st := by
  induction h with
  | nil => exact id
  | cons hs _ ih => exact fun h0 => ih (hstep h0 hs)
  | skip _ ih => exact ih

theorem step_pointwise {Q : Path → Conn → Prop}
    (hnext : ∀ {p c s g r rp pd sh}, p.drop c.pc = (s, g) :: r → Q p c → Q p (next c s rp pd sh))
    {pr : Nat → Path} {st i st'} (h : ∀ j, Q (pr j) (st j)) (hs : Step pr st i st') :
    ∀ j, Q (pr j) (st' j) := by
  obtain ⟨s, g, r, rp, pd, sh, hcur, _, _, _, rfl⟩ := hs
  intro j
  by_cases hj : j = i
  · subst hj
    rw [upd_same]
    exact hnext hcur (h j)
  · rw [upd_other _ hj]
    exact h j

theorem next_ok {p c s g r rp pd sh} (hcur : p.drop c.pc = (s, g) :: r) (h : ConnOk p c) :
    ConnOk p (next c s rp pd sh) := by
  obtain ⟨pc, l, t, f⟩ := c
  obtain ⟨hf, hok, htx, hpend⟩ := id h
  dsimp only at hcur hf hok htx hpend
  cases drop_cons hcur
  cases hf
  rw [hcur] at hok
  -- `hok` now computes to `False` where the static check rules the statement out, and otherwise to
  -- the check of the rest of the path from the very lock and flag that `next` produces.
  -- A waiting statement returns the connection as it was: `h`.
  cases l
  case none =>
    cases s
    case beginD =>
      cases t
      · exact ⟨rfl, hok, absurd rfl, nofun⟩
      · cases hok
    case beginI =>
      cases t
      · cases rp
        · exact ⟨rfl, hok, fun _ => rfl, nofun⟩
        · exact h
      · cases hok
    case read =>
      cases pd
      · cases t
        · exact ⟨rfl, hok, absurd rfl, nofun⟩
        · exact ⟨rfl, hok, fun _ => rfl, nofun⟩
      · exact h
    case write =>
      cases rp
      · cases t
        · cases sh
          · exact ⟨rfl, hok, absurd rfl, nofun⟩
          · exact h
        · exact ⟨rfl, hok, fun _ => rfl, nofun⟩
      · exact h
    case commit => exact ⟨rfl, hok, absurd rfl, nofun⟩
    case work => exact ⟨rfl, hok, htx, nofun⟩
  case shared =>
    cases htx nofun
    cases s
    case beginD | beginI | write => cases hok
    case read | work => exact ⟨rfl, hok, fun _ => rfl, nofun⟩
    case commit => exact ⟨rfl, hok, absurd rfl, nofun⟩
  case reserved =>
    cases htx nofun
    cases s
    case beginD | beginI => cases hok
    case read | write | work => exact ⟨rfl, hok, fun _ => rfl, nofun⟩
    -- first half of the COMMIT: `pc` stays, and `absL` hides the change of lock from `okFrom`
    case commit => exact ⟨rfl, h.ok, fun _ => rfl, fun _ => ⟨_, _, hcur⟩⟩
  case pending =>
    obtain ⟨g', r', hc⟩ := hpend rfl
    cases hcur.symm.trans hc
    cases sh
    · exact ⟨rfl, hok, absurd rfl, nofun⟩
    · exact h

def AllOk (pr : Nat → Path) (st : State) : Prop := ∀ i, ConnOk (pr i) (st i)

theorem reachable_allOk {prog : Prog} (h : noUpgrade prog = true) {pr : Nat → Path}
    (hpr : ∀ i, pr i ∈ paths prog) {sched st} (hrun : Run pr init sched st) : AllOk pr st :=
  run_invariant (step_pointwise next_ok) hrun
    fun i => ⟨rfl, List.all_eq_true.mp h _ (hpr i), absurd rfl, nofun⟩

def OneWriter (st : State) : Prop := ∀ i j, i ≠ j → isW (st i).lock → ¬ isW (st j).lock

theorem next_lock_isW {c s rp pd sh} (hw : isW (next c s rp pd sh).lock) : isW c.lock ∨ rp = false := by
  cases rp
  · exact .inr rfl
  · refine .inl ?_
    obtain ⟨pc, l, t, f⟩ := c
    -- with `rp` set the new lock is the old one, `none`, `shared`, or PENDING after RESERVED
    cases s
    case beginD | work => exact hw
    case beginI | write => cases l <;> exact hw
    case read =>
      cases l
      case none =>
        cases pd
        · cases t
          · exact hw
          · exact hw.elim nofun nofun
        · exact hw
      all_goals exact hw
    case commit =>
      cases l
      case reserved => exact .inl rfl
      case pending => exact .inr rfl
      all_goals exact hw.elim nofun nofun

theorem step_oneWriter {pr st i st'} (h : OneWriter st) (hs : Step pr st i st') : OneWriter st' := by
  obtain ⟨s, g, r, rp, pd, sh, _, hrp, _, _, rfl⟩ := hs
  have key : ∀ j, j ≠ i → isW (next (st i) s rp pd sh).lock → ¬ isW (st j).lock := by
    intro j hj hw hjw
    rcases next_lock_isW hw with hi | hrpf
    · exact h i j (Ne.symm hj) hi hjw
    · rw [hrp.2 ⟨j, hj, hjw⟩] at hrpf
      cases hrpf
  intro a b hab ha hb
  by_cases hai : a = i
  · subst hai
    rw [upd_same] at ha
    rw [upd_other _ (Ne.symm hab)] at hb
    exact key b (Ne.symm hab) ha hb
  · rw [upd_other _ hai] at ha
    by_cases hbi : b = i
    · subst hbi
      rw [upd_same] at hb
      exact key a hai hb ha
    · rw [upd_other _ hbi] at hb
      exact h a b hab ha hb

theorem init_oneWriter : OneWriter init := fun _ _ _ hi => hi.elim nofun nofun

theorem not_done_of_lock {p c} (h : ConnOk p c) (hl : c.lock ≠ .none) : ∃ s g r, p.drop c.pc = (s, g) :: r := by
  cases hd : p.drop c.pc with
  | cons sg r => exact ⟨sg.1, sg.2, r, rfl⟩
  | nil =>
    -- at the end of a path `okFrom` demands that no transaction is open
    have hok := h.ok
    rw [hd, h.inTxn hl] at hok
    cases (Bool.and_false _).symm.trans hok

theorem next_eq_self {c : Conn} {s : Stmt} {rp pd sh : Bool} (hf : c.failed = false)
    (h : next c s rp pd sh = c) :
    c.lock = .none ∧ (rp = true ∨ pd = true ∨ sh = true) ∨ c.lock = .pending ∧ sh = true := by
  obtain ⟨pc, l, t, f⟩ := c
  cases hf
  have adv : ∀ {l' t' f'}, (⟨pc + 1, l', t', f'⟩ : Conn) ≠ ⟨pc, l, t, false⟩ :=
    fun e => Nat.succ_ne_self pc (congrArg Conn.pc e)
  -- a branch of `next` that is not a wait advances `pc` (`adv`), sets `failed`, or changes the lock
  cases s
  case beginD | work => exact absurd h adv
  case beginI =>
    cases l
    case none =>
      cases rp
      · exact absurd h adv
      · exact .inl ⟨rfl, .inl rfl⟩
    all_goals cases h
  case read =>
    cases l
    case none =>
      cases pd
      · exact absurd h adv
      · exact .inl ⟨rfl, .inr (.inl rfl)⟩
    all_goals exact absurd h adv
  case write =>
    cases l
    case none =>
      cases rp
      · cases t
        · cases sh
          · exact absurd h adv
          · exact .inl ⟨rfl, .inr (.inr rfl)⟩
        · exact absurd h adv
      · exact .inl ⟨rfl, .inl rfl⟩
    case shared =>
      cases rp
      · exact absurd h adv
      · cases h
    all_goals exact absurd h adv
  case commit =>
    cases l
    case reserved => cases h
    case pending =>
      cases sh
      · exact absurd h adv
      · exact .inr ⟨rfl, rfl⟩
    all_goals exact absurd h adv

open Classical in
theorem can_step {pr st i s g r} (hcur : (pr i).drop (st i).pc = (s, g) :: r)
    (hmove : next (st i) s (decide (rpF st i)) (decide (pdF st i)) (decide (shF st i)) ≠ st i) :
    ∃ j st', Step pr st j st' ∧ st' ≠ st :=
  ⟨i, _, ⟨s, g, r, _, _, _, hcur, decide_eq_true_iff, decide_eq_true_iff, decide_eq_true_iff, rfl⟩,
    fun e => hmove ((upd_same st i _).symm.trans (congrFun e i))⟩

open Classical in
/-- progress: in every state satisfying the invariant with unfinished work some connection can move. -/
theorem progress (pr : Nat → Path) (st : State) (hok : AllOk pr st)
    (hnd : ∃ i s g r, (pr i).drop (st i).pc = (s, g) :: r) :
    ∃ j st', Step pr st j st' ∧ st' ≠ st := by
  obtain ⟨i, s, g, r, hcur⟩ := hnd
  -- a holder of SHARED or RESERVED never waits
  have holderMoves : ∀ k, (st k).lock = .shared ∨ (st k).lock = .reserved →
      ∃ j st', Step pr st j st' ∧ st' ≠ st := by
    intro k hk
    have hne : (st k).lock ≠ .none := by rcases hk with h | h <;> rw [h] <;> nofun
    obtain ⟨s', g', r', hc'⟩ := not_done_of_lock (hok k) hne
    refine can_step hc' fun e => ?_
    rcases next_eq_self (hok k).notFailed e with ⟨hl, _⟩ | ⟨hl, _⟩
    · exact hne hl
    · rcases hk with h | h <;> rw [h] at hl <;> cases hl
  -- a holder of PENDING is at its COMMIT and waits only for a holder of SHARED
  have writerMoves : ∀ j, isW (st j).lock → ∃ j' st', Step pr st j' st' ∧ st' ≠ st := by
    intro j hj
    rcases hj with hres | hpen
    · exact holderMoves j (.inr hres)
    · obtain ⟨g', r', hc'⟩ := (hok j).atCommit hpen
      refine Classical.byCases (fun hmv => ?_) (can_step hc')
      rcases next_eq_self (hok j).notFailed hmv with ⟨hl, _⟩ | ⟨_, hsh⟩
      · rw [hpen] at hl
        cases hl
      · obtain ⟨k, _, hk⟩ := of_decide_eq_true hsh
        exact holderMoves k (.inl hk)
  -- so whatever keeps `i` waiting, the holder of that lock can move
  refine Classical.byCases (fun hmv => ?_) (can_step hcur)
  rcases next_eq_self (hok i).notFailed hmv with ⟨_, h1 | h1 | h1⟩ | ⟨_, h1⟩
  · obtain ⟨j, _, hj⟩ := of_decide_eq_true h1
    exact writerMoves j hj
  · obtain ⟨j, _, hj⟩ := of_decide_eq_true h1
    exact writerMoves j (.inr hj)
  · obtain ⟨k, _, hk⟩ := of_decide_eq_true h1
    exact holderMoves k (.inl hk)
  · obtain ⟨k, _, hk⟩ := of_decide_eq_true h1
    exact holderMoves k (.inl hk)

def ConnWork (p : Path) (c : Conn) : Prop := workFrom c.inTxn ((p.drop c.pc).map (·.1)) = true

theorem next_work {p c s g r rp pd sh} (hcur : p.drop c.pc = (s, g) :: r) (h : ConnWork p c) :
    ConnWork p (next c s rp pd sh) := by
  obtain ⟨pc, l, t, f⟩ := c
  have h' := h
  unfold ConnWork at h'
  dsimp only at hcur h'
  cases drop_cons hcur
  rw [hcur] at h'
  -- `h'` computes to the check of the rest of the path from the flag a completed statement leaves;
  -- a statement that waits, fails or is the first half of a COMMIT leaves `pc` and `inTxn` alone: `h`
  cases s
  case beginD => exact h'
  case beginI =>
    cases l
    case none =>
      cases rp
      · exact h'
      · exact h
    all_goals exact h
  case read =>
    cases l
    case none =>
      cases pd
      · exact h'
      · exact h
    all_goals exact h'
  case write =>
    cases l
    case none =>
      cases rp
      · cases t
        · cases sh
          · exact h'
          · exact h
        · exact h'
      · exact h
    case shared =>
      cases rp
      · exact h'
      · exact h
    all_goals exact h'
  case commit =>
    cases l
    case reserved => exact h
    case pending =>
      cases sh
      · exact h'
      · exact h
    all_goals exact h'
  case work =>
    cases t
    · exact h'
    · cases h'

theorem reachable_allWork {prog : Prog} (h : noWorkInsideTxn prog = true) {pr : Nat → Path}
    (hpr : ∀ i, pr i ∈ paths prog) {sched st} (hrun : Run pr init sched st) :
    ∀ i, ConnWork (pr i) (st i) :=
  run_invariant (step_pointwise next_work) hrun fun i => List.all_eq_true.mp h _ (hpr i)

theorem work_holds_nothing {p : Path} {c : Conn} {g : Bool} {r : Path} (hok : ConnOk p c) (hw : ConnWork p c)
    (hcur : p.drop c.pc = (.work, g) :: r) : c.inTxn = false ∧ c.lock = .none := by
  obtain ⟨pc, l, t, f⟩ := c
  unfold ConnWork at hw
  dsimp only at hcur hw
  rw [hcur] at hw
  cases t
  · refine ⟨rfl, Decidable.not_not.mp fun hl => ?_⟩
    cases hok.inTxn hl
  · cases hw

def IdleFrom (n : Nat) (st : State) : Prop := ∀ j, n ≤ j → (st j).lock = .none

/-- Scanning the first `n` connections for a lock finds it wherever it is held, since the
    connections from `n` on hold none. -/
theorem any_other_iff {q : Lock → Bool} {Q : Lock → Prop} (hq : q .none = false) (hQ : ∀ l, q l = true ↔ Q l)
    {st : State} {n i : Nat} (hid : IdleFrom n st) :
    ((List.range n).any fun j => j != i && q (st j).lock) = true ↔ ∃ j, j ≠ i ∧ Q (st j).lock := by
  simp only [List.any_eq_true, List.mem_range, Bool.and_eq_true, bne_iff_ne, ne_eq, hQ]
  constructor
  · rintro ⟨j, _, hj, hw⟩
    exact ⟨j, hj, hw⟩
  · rintro ⟨j, hj, hw⟩
    refine ⟨j, Nat.lt_of_not_le fun hge => ?_, hj, hw⟩
    rw [hid j hge, ← hQ, hq] at hw
    cases hw

theorem rpB_iff {st : State} {n i : Nat} (hid : IdleFrom n st) : rpB st n i = true ↔ rpF st i :=
  any_other_iff (q := isWb) rfl (fun _ => Bool.or_eq_true_iff.trans (or_congr beq_iff_eq beq_iff_eq)) hid

theorem pdB_iff {st : State} {n i : Nat} (hid : IdleFrom n st) : pdB st n i = true ↔ pdF st i :=
  any_other_iff (q := (· == .pending)) rfl (fun _ => beq_iff_eq) hid

theorem shB_iff {st : State} {n i : Nat} (hid : IdleFrom n st) : shB st n i = true ↔ shF st i :=
  any_other_iff (q := (· == .shared)) rfl (fun _ => beq_iff_eq) hid

theorem stepN_nil {n pr st i} (hcur : (pr i).drop (st i).pc = []) : stepN n pr st i = st := by
  unfold stepN
  rw [hcur]

theorem stepN_cons {n pr st i s g r} (hcur : (pr i).drop (st i).pc = (s, g) :: r) :
    stepN n pr st i = upd st i (next (st i) s (rpB st n i) (pdB st n i) (shB st n i)) := by
  unfold stepN
  rw [hcur]

theorem stepN_is_Step {n pr st i s g r} (hid : IdleFrom n st) (hcur : (pr i).drop (st i).pc = (s, g) :: r) :
    Step pr st i (stepN n pr st i) :=
  ⟨s, g, r, _, _, _, hcur, rpB_iff hid, pdB_iff hid, shB_iff hid, stepN_cons hcur⟩

theorem stepN_idle {n pr st i} (hi : i < n) (hid : IdleFrom n st) :
    IdleFrom n (stepN n pr st i) := by
  intro j hj
  cases hcur : (pr i).drop (st i).pc with
  | nil =>
    rw [stepN_nil hcur]
    exact hid j hj
  | cons sg r =>
    rw [stepN_cons hcur, upd_other _ (Nat.ne_of_gt (Nat.lt_of_lt_of_le hi hj))]
    exact hid j hj

theorem runN_Run {n : Nat} {pr : Nat → Path} : ∀ {st : State} {sched : List Nat}, IdleFrom n st →
    (∀ i ∈ sched, i < n) → Run pr st sched (runN n pr st sched)
  | st, [], _, _ => Run.nil st
  | st, i :: sched, hid, hs => by
    obtain ⟨hi, hs⟩ := List.forall_mem_cons.mp hs
    have hrest : Run pr (stepN n pr st i) sched (runN n pr (stepN n pr st i) sched) :=
      runN_Run (stepN_idle hi hid) hs
    show Run pr st (i :: sched) (runN n pr (stepN n pr st i) sched)
    cases hcur : (pr i).drop (st i).pc with
    | nil =>
      rw [stepN_nil hcur] at hrest ⊢
      exact Run.skip hrest
    | cons sg r => exact Run.cons (stepN_is_Step hid hcur) hrest

theorem init_idle (n : Nat) : IdleFrom n init := fun _ _ => rfl

end PymocaVerif.SqliteLock
