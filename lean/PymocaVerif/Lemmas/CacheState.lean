import PymocaVerif.Model.CacheState
/-!
The model-cache state machine (`Props/C20`, `Props/C21`): when `load` hits and when it raises,
what `transfer` returns for each result of `load`, and the invariant `FreshInv`.
-/
namespace PymocaVerif.CacheState

variable {M : Type}

/-- Hypothesis on CPython's unpickler + the `except` clauses: whatever unpickling a strict
    prefix raises (`truncErr`) is converted to `InvalidCacheError` (DESIGN §5 writes
    `unpickleErr ⊆ caught`). -/
def Lawful (cfg : Cfg M) : Prop := ∀ n, (convert (cfg.truncErr n)).isSome = true

/-- A complete cache file was compiled, with its stored options and version, from a
    snapshot of the folders it names, and every such folder that has no file newer than the
    cache still equals its snapshot.  `L` is the library-folder list in force while
    `library_folders` is excluded from the option comparison. -/
def FreshInv (cfg : Cfg M) (L : List Folder) (w : World M) : Prop :=
  ∀ c, w.cache = some c → c.complete = true →
    (cfg.exclLibs = true → c.db.opts.libs = L) ∧
    ∃ snap : Folder → List SrcFile,
      c.db.model = cfg.compile c.db.version (srcs snap c.db.opts) c.db.opts ∧
      ∀ f ∈ folders c.db.opts, stale c (w.fs f) = false → w.fs f = snap f

/-- The hypotheses of the property on one step: an edit gets a modification time strictly
    later than the cache file's; transfers keep `mtime_check` on and (while the key is
    excluded from the comparison) do not change `library_folders`. -/
def OpOk (cfg : Cfg M) (L : List Folder) (w : World M) : Op → Prop
  | .write _ _ t _ => ∀ c, w.cache = some c → c.mtime < t
  | .setVersion _ => True
  | .transfer o _ _ => o.norm.mtimeCheck = true ∧ (cfg.exclLibs = true → o.libs = L)
  | .crashedTransfer o _ _ _ => o.norm.mtimeCheck = true ∧ (cfg.exclLibs = true → o.libs = L)
  | .truncate _ _ => True

def Admissible (cfg : Cfg M) (L : List Folder) : World M → List Op → Prop
  | _, [] => True
  | w, op :: rest => OpOk cfg L w op ∧ Admissible cfg L (step cfg w op).1 rest

/-- The outcome is a model, and it is the compile of the current sources with the current
    (rewritten) options under the current version. -/
def Correct (cfg : Cfg M) (w : World M) (o : Opts) (out : Outcome M) : Prop :=
  out.model? = some (compileNow cfg w o.norm)

def AllCorrect (cfg : Cfg M) : World M → List Op → Prop
  | _, [] => True
  | w, op :: rest =>
    (match op with
      | .transfer o now size => Correct cfg w o (transfer cfg w o now size).2
      | _ => True) ∧ AllCorrect cfg (step cfg w op).1 rest

@[simp] theorem norm_libs (o : Opts) : o.norm.libs = o.libs := rfl
@[simp] theorem norm_mtimeCheck (o : Opts) : o.norm.mtimeCheck = o.mtimeCheck := rfl

variable {cfg : Cfg M} {L : List Folder} {w : World M} {o : Opts}

section
variable {excl : Bool} {a b : Opts}

theorem optsMatch_iff : optsMatch excl a b = true ↔
    (excl = true ∨ a.libs = b.libs) ∧ a.mtimeCheck = b.mtimeCheck ∧ a.cache = b.cache ∧
      a.codegen = b.codegen ∧ a.expandMx = b.expandMx ∧ a.rest = b.rest := by
  simp only [optsMatch, Bool.and_eq_true, Bool.or_eq_true, beq_iff_eq, and_assoc]

theorem optsMatch_rest (h : optsMatch excl a b = true) : a.rest = b.rest :=
  (optsMatch_iff.1 h).2.2.2.2.2

theorem optsMatch_eq (h : optsMatch excl a b = true)
    (hl : excl = true → a.libs = b.libs) : a = b := by
  obtain ⟨h1, h2, h3, h4, h5, h6⟩ := optsMatch_iff.1 h
  cases a
  cases b
  simp only [Opts.mk.injEq]
  exact ⟨h1.elim hl id, h2, h3, h4, h5, h6⟩

end

theorem scan_eq_false {o : Opts} {c : CacheFile M} {fs : Folder → List SrcFile} :
    (o.mtimeCheck && (folders o).any fun f => stale c (fs f)) = false ↔
      (o.mtimeCheck = true → ∀ f ∈ folders o, stale c (fs f) = false) := by
  cases o.mtimeCheck <;> simp

/-- A guard whose branch cannot be `r` is passed exactly when it is off. -/
theorem ite_eq_iff_right {α : Type} {c : Prop} [Decidable c] {y x r : α} (hy : y ≠ r) :
    (if c then y else x) = r ↔ ¬c ∧ x = r := by
  by_cases h : c <;> simp [h, hy]

theorem ite_eq_iff_left {α : Type} {c : Prop} [Decidable c] {y x r : α} (hx : x ≠ r) :
    (if c then y else x) = r ↔ c ∧ y = r := by
  by_cases h : c <;> simp [h, hx]

theorem load_eq_hit_iff {m : M} : load cfg w o = .hit m ↔
    ∃ c, w.cache = some c ∧ (o.mtimeCheck = true → ∀ f ∈ folders o, stale c (w.fs f) = false) ∧
      c.complete = true ∧ c.db.version = w.version ∧
      optsMatch cfg.exclLibs c.db.opts o = true ∧ c.db.model = m := by
  unfold load
  cases w.cache with
  | none => simp
  | some c =>
    dsimp only
    rw [ite_eq_iff_right, ite_eq_iff_right, ite_eq_iff_right, ite_eq_iff_right]
    · simp only [Bool.not_eq_true, scan_eq_false, Bool.not_eq_false', bne_eq_false_iff_eq,
        LoadResult.hit.injEq, Option.some.injEq, exists_eq_left']
    · nofun
    · nofun
    · split <;> nofun
    · nofun

theorem load_eq_raised_iff {e : Exc} : load cfg w o = .raised e ↔
    ∃ c, w.cache = some c ∧ (o.mtimeCheck = true → ∀ f ∈ folders o, stale c (w.fs f) = false) ∧
      c.complete = false ∧ convert (cfg.truncErr c.written) = none ∧ cfg.truncErr c.written = e := by
  unfold load
  cases w.cache with
  | none => simp
  | some c =>
    dsimp only
    rw [ite_eq_iff_right, ite_eq_iff_left]
    · simp only [Bool.not_eq_true, scan_eq_false, Bool.not_eq_true', Option.some.injEq, exists_eq_left']
      cases convert (cfg.truncErr c.written) with
      | none => simp only [LoadResult.raised.injEq, true_and]
      | some r => simp only [reduceCtorEq, false_and, and_false]
    · split
      · nofun
      · split <;> nofun
    · nofun

theorem load_ne_raised (hlaw : Lawful cfg) {e : Exc} : load cfg w o ≠ .raised e := by
  intro h
  obtain ⟨c, _, _, _, hcv, _⟩ := load_eq_raised_iff.1 h
  have := hlaw c.written
  rw [hcv] at this
  cases this

section
variable {now size : Nat} {i : Interrupt}

theorem transfer_direct (hc : (o.norm.cache || o.norm.codegen) = false) :
    transfer cfg w o now size i = (w, .direct (compileNow cfg w o.norm)) := by
  simp only [transfer, hc, Bool.not_false, if_true]

theorem transfer_hit (hc : (o.norm.cache || o.norm.codegen) = true) {m : M}
    (h : load cfg w o.norm = .hit m) : transfer cfg w o now size i = (w, .hit m) := by
  simp only [transfer, hc, h, Bool.not_true, Bool.false_eq_true, if_false]

theorem transfer_raised (hc : (o.norm.cache || o.norm.codegen) = true) {e : Exc}
    (h : load cfg w o.norm = .raised e) : transfer cfg w o now size i = (w, .raised e) := by
  simp only [transfer, hc, h, Bool.not_true, Bool.false_eq_true, if_false]

theorem transfer_miss (hc : (o.norm.cache || o.norm.codegen) = true) {r : Reason}
    (h : load cfg w o.norm = .miss r) :
    transfer cfg w o now size i =
      (match i with
        | .done => { w with cache := some ⟨now, ⟨w.version, o.norm, compileNow cfg w o.norm⟩, size, size⟩ }
        | .beforeOpen => w
        | .after k => { w with cache := some ⟨now, ⟨w.version, o.norm, compileNow cfg w o.norm⟩, size, min k size⟩ },
       .compiled (compileNow cfg w o.norm) r) := by
  simp only [transfer, hc, h, Bool.not_true, Bool.false_eq_true, if_false]
  cases i <;> rfl

end

theorem freshInv_of_no_cache (h : w.cache = none) : FreshInv cfg L w := by
  intro c hc
  rw [h] at hc
  cases hc

theorem freshInv_of_incomplete (h : ∀ c, w.cache = some c → c.complete = false) : FreshInv cfg L w := by
  intro c hc hcomp
  rw [h c hc] at hcomp
  cases hcomp

theorem freshInv_newCache {now size k : Nat}
    (hl : cfg.exclLibs = true → o.libs = L) :
    FreshInv cfg L { w with cache := some ⟨now, ⟨w.version, o, compileNow cfg w o⟩, size, k⟩ } := by
  intro c hc _
  cases hc
  exact ⟨hl, w.fs, rfl, fun _ _ _ => rfl⟩

/-- `hq`: the scan of the source folders ran, or it would have found nothing (what is left of
    the mtime hypothesis when a call switches `mtime_check` off). -/
theorem hit_correct {m : M}
    (hinv : FreshInv cfg L w) (hl : cfg.exclLibs = true → o.libs = L)
    (hq : o.mtimeCheck = true ∨ ∀ c, w.cache = some c → ∀ f ∈ folders o, stale c (w.fs f) = false)
    (h : load cfg w o = .hit m) : m = compileNow cfg w o := by
  obtain ⟨c, hc, hscan, hcomp, hv, hopts, rfl⟩ := load_eq_hit_iff.1 h
  obtain ⟨hlibs, snap, hmodel, hsnap⟩ := hinv c hc hcomp
  have hst : ∀ f ∈ folders o, stale c (w.fs f) = false := hq.elim hscan fun h => h c hc
  -- the stored options are the current ones, so the snapshot folders are the current folders
  obtain rfl : c.db.opts = o := optsMatch_eq hopts fun hx => by rw [hlibs hx, hl hx]
  rw [hmodel, hv]
  exact congrArg (cfg.compile w.version · c.db.opts)
    (List.map_congr_left fun f hf => by rw [hsnap f hf (hst f hf)])

theorem transfer_spec {now size : Nat}
    {intr : Interrupt} (hlaw : Lawful cfg) (hinv : FreshInv cfg L w)
    (hq : o.norm.mtimeCheck = true ∨
      ∀ c, w.cache = some c → ∀ f ∈ folders o.norm, stale c (w.fs f) = false)
    (hl : cfg.exclLibs = true → o.libs = L) :
    Correct cfg w o (transfer cfg w o now size intr).2 ∧
      FreshInv cfg L (transfer cfg w o now size intr).1 := by
  cases hc : (o.norm.cache || o.norm.codegen) with
  | false =>
    rw [transfer_direct hc]
    exact ⟨rfl, hinv⟩
  | true =>
    cases hload : load cfg w o.norm with
    | hit m =>
      rw [transfer_hit hc hload]
      exact ⟨congrArg some (hit_correct hinv hl hq hload), hinv⟩
    | raised e => exact absurd hload (load_ne_raised hlaw)
    | miss r =>
      rw [transfer_miss hc hload]
      refine ⟨rfl, ?_⟩
      cases intr with
      | done => exact freshInv_newCache hl
      | beforeOpen => exact hinv
      | after k => exact freshInv_newCache hl

theorem mem_writeFile (files : List SrcFile) (x : SrcFile) : x ∈ writeFile files x := by
  unfold writeFile
  split
  · next h =>
    obtain ⟨y, hy, hp⟩ := List.any_eq_true.1 h
    exact List.mem_map.2 ⟨y, hy, if_pos hp⟩
  · exact List.mem_append_right _ (List.mem_singleton_self x)

theorem stale_writeFile (c : CacheFile M) (files : List SrcFile) (x : SrcFile) (h : c.mtime < x.mtime) :
    stale c (writeFile files x) = true :=
  List.any_eq_true.2 ⟨x, mem_writeFile files x, decide_eq_true h⟩

/-- A truncation that leaves the file complete has cut nothing off. -/
theorem truncate_complete {c : CacheFile M} {k t : Nat} (h : (truncateCache c k t).complete = true) :
    c.complete = true ∧ (truncateCache c k t).mtime = c.mtime ∧ (truncateCache c k t).db = c.db := by
  unfold truncateCache at *
  split
  · next h1 =>
    rw [if_pos h1] at h
    exact ⟨h, rfl, rfl⟩
  · next h1 =>
    rw [if_neg h1] at h
    have hk : c.size ≤ k := of_decide_eq_true h
    exact ⟨decide_eq_true (Nat.le_trans hk (Nat.le_of_not_le h1)), if_pos hk, rfl⟩

theorem step_freshInv (op : Op) (hlaw : Lawful cfg)
    (hinv : FreshInv cfg L w) (hok : OpOk cfg L w op) : FreshInv cfg L (step cfg w op).1 := by
  cases op with
  | write f p t ct =>
    -- the folder written to is newer than the cache, the others are as before
    intro c hc hcomp
    obtain ⟨hlibs, snap, hmodel, hsnap⟩ := hinv c hc hcomp
    refine ⟨hlibs, snap, hmodel, fun g hg hst => ?_⟩
    dsimp only [step] at hst ⊢
    by_cases hgf : g = f
    · rw [if_pos hgf, stale_writeFile c (w.fs f) ⟨p, t, ct⟩ (hok c hc)] at hst
      cases hst
    · rw [if_neg hgf] at hst ⊢
      exact hsnap g hg hst
  | setVersion v => exact hinv
  | transfer o now size => exact (transfer_spec hlaw hinv (.inl hok.1) hok.2).2
  | crashedTransfer o now size i => exact (transfer_spec hlaw hinv (.inl hok.1) hok.2).2
  | truncate k t =>
    intro c hc hcomp
    obtain ⟨c0, hc0, rfl⟩ := Option.map_eq_some_iff.1 hc
    obtain ⟨h0, hmt, hdb⟩ := truncate_complete hcomp
    obtain ⟨hlibs, snap, hmodel, hsnap⟩ := hinv c0 hc0 h0
    rw [hdb]
    refine ⟨hlibs, snap, hmodel, fun g hg hst => hsnap g hg ?_⟩
    rw [← hst]
    unfold stale
    rw [hmt]
    rfl

theorem history_spec (hlaw : Lawful cfg) {hist : List Op} (hinv : FreshInv cfg L w)
    (hadm : Admissible cfg L w hist) : AllCorrect cfg w hist ∧ FreshInv cfg L (run cfg w hist).1 := by
  induction hist generalizing w with
  | nil => exact ⟨trivial, hinv⟩
  | cons op rest ih =>
    obtain ⟨hok, hrest⟩ := hadm
    obtain ⟨hc, hi⟩ := ih (step_freshInv op hlaw hinv hok) hrest
    refine ⟨⟨?_, hc⟩, hi⟩
    cases op with
    | transfer o now size => exact (transfer_spec hlaw hinv (.inl hok.1) hok.2).1
    | _ => trivial

theorem Admissible.change_libs (hex : cfg.exclLibs = false) {L' : List Folder} {hist : List Op}
    (hadm : Admissible cfg L w hist) : Admissible cfg L' w hist := by
  induction hist generalizing w with
  | nil => trivial
  | cons op rest ih =>
    refine ⟨?_, ih hadm.2⟩
    have hok := hadm.1
    have hL' : ∀ o : Opts, cfg.exclLibs = true → o.libs = L' := fun _ h => by rw [hex] at h; cases h
    cases op with
    | transfer o now size => exact ⟨hok.1, hL' o⟩
    | crashedTransfer o now size i => exact ⟨hok.1, hL' o⟩
    | _ => exact hok

/-! For a concrete history `Admissible` is checked by running it. -/

def opOk (cfg : Cfg M) (L : List Folder) (w : World M) : Op → Bool
  | .write _ _ t _ => w.cache.all fun c => c.mtime < t
  | .transfer o _ _ | .crashedTransfer o _ _ _ =>
    decide (o.norm.mtimeCheck = true ∧ (cfg.exclLibs = true → o.libs = L))
  | _ => true

def admissible (cfg : Cfg M) (L : List Folder) : World M → List Op → Bool
  | _, [] => true
  | w, op :: rest => opOk cfg L w op && admissible cfg L (step cfg w op).1 rest

theorem OpOk.of_test {op : Op} (h : opOk cfg L w op = true) : OpOk cfg L w op := by
  cases op with
  | write f p t ct =>
    intro c hc
    rw [opOk, hc] at h
    exact of_decide_eq_true h
  | transfer o now size => exact of_decide_eq_true (p := _ ∧ _) h
  | crashedTransfer o now size i => exact of_decide_eq_true (p := _ ∧ _) h
  | _ => trivial

theorem Admissible.of_test : ∀ {hist : List Op} {w : World M},
    admissible cfg L w hist = true → Admissible cfg L w hist
  | [], _, _ => trivial
  | _ :: _, _, h => ⟨.of_test (Bool.and_eq_true_iff.1 h).1, of_test (Bool.and_eq_true_iff.1 h).2⟩

end PymocaVerif.CacheState
