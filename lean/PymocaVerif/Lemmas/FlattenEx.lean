import PymocaVerif.Model.Flatten
/-! A small concrete library used by the `example`s of Props/C07 and Props/C08 to show that the
    theorems' hypotheses are satisfiable. -/
namespace PymocaVerif.Flatten

instance {ε α : Type} [DecidableEq ε] [DecidableEq α] : DecidableEq (Except ε α)
  | .ok a, .ok b => if h : a = b then isTrue (by rw [h]) else isFalse (fun h' => by cases h'; exact h rfl)
  | .error a, .error b => if h : a = b then isTrue (by rw [h]) else isFalse (fun h' => by cases h'; exact h rfl)
  | .ok _, .error _ => isFalse (fun h => by cases h)
  | .error _, .ok _ => isFalse (fun h => by cases h)

/-- `model Leaf parameter Real k = 1; parameter Integer n = 1; input Real u; Real w[2];`
    `  initial equation w[n] = 0; equation w[1] = k*u; for i in 1:2 loop w[i + n] = u; end for; end Leaf;`
    `model Base Leaf lb(k = 5); Real b(start = 1); equation b = lb.u; end Base;`
    `model M extends Base(b(start = 3)); Leaf l2[3]; output Real y; equation y = l2[1].u + b; end M;` -/
def exLeaf : ClassDef := ClassDef.mk false []
  [Comp.mk "k" (.builtin "Real") ["parameter"] [] [Mod.mk [] (.num 1)],
   Comp.mk "n" (.builtin "Integer") ["parameter"] [] [Mod.mk [] (.num 1)],
   Comp.mk "u" (.builtin "Real") ["input"] [] [],
   Comp.mk "w" (.builtin "Real") [] [2] []]
  [.eq (.ref [("w", [.lit 1])]) (.bin "*" (.ref [("k", [])]) (.ref [("u", [])])),
   .forEq "i" 1 2 [(.ref [("w", [.add (.name "i") (.name "n")])], .ref [("u", [])])]]
  [.eq (.ref [("w", [.name "n"])]) (.num 0)]
def exBase : ClassDef := ClassDef.mk false []
  [Comp.mk "lb" (.cls ["Leaf"]) [] [] [Mod.mk ["k"] (.num 5)],
   Comp.mk "b" (.builtin "Real") [] [] [Mod.mk ["start"] (.num 1)]]
  [.eq (.ref [("b", [])]) (.ref [("lb", []), ("u", [])])] []
def exM : ClassDef := ClassDef.mk false [(.cls ["Base"], [Mod.mk ["b", "start"] (.num 3)])]
  [Comp.mk "l2" (.cls ["Leaf"]) [] [3] [],
   Comp.mk "y" (.builtin "Real") ["output"] [] []]
  [.eq (.ref [("y", [])]) (.bin "+" (.ref [("l2", [.lit 1]), ("u", [])]) (.ref [("b", [])]))] []
def exLib : Lib := [(["Leaf"], exLeaf), (["Base"], exBase), (["M"], exM)]

def exFlat : FlatModel := (match flattenF 6 exLib ["M"] with | .ok m => m | .error _ => ⟨[], [], []⟩)

/-- The flat model of `M`, written out: the leaves in declaration order (inherited first), the
    equations of `lb`, of `l2`, of `Base` and of `M`, no flow or binding equation. -/
def exFlatVal : FlatModel :=
    ⟨[⟨["lb", "k"], "Real", ["parameter"], [], [], some (.num 5)⟩,
      ⟨["lb", "n"], "Integer", ["parameter"], [], [], some (.num 1)⟩,
      ⟨["lb", "u"], "Real", [], [], [], none⟩,
      ⟨["lb", "w"], "Real", [], [2], [], none⟩,
      ⟨["b"], "Real", [], [], [("start", .num 3)], none⟩,
      ⟨["l2", "k"], "Real", ["parameter"], [3], [], some (.num 1)⟩,
      ⟨["l2", "n"], "Integer", ["parameter"], [3], [], some (.num 1)⟩,
      ⟨["l2", "u"], "Real", [], [3], [], none⟩,
      ⟨["l2", "w"], "Real", [], [3, 2], [], none⟩,
      ⟨["y"], "Real", ["output"], [], [], none⟩],
     [.eq (.fref ["lb", "w"] [.lit 1]) (.bin "*" (.fref ["lb", "k"] []) (.fref ["lb", "u"] [])),
      .forEq "i" 1 2 [(.fref ["lb", "w"] [.add (.name "i") (.var ["lb", "n"] [])], .fref ["lb", "u"] [])],
      .eq (.fref ["l2", "w"] [.lit 1]) (.bin "*" (.fref ["l2", "k"] []) (.fref ["l2", "u"] [])),
      .forEq "i" 1 2 [(.fref ["l2", "w"] [.add (.name "i") (.var ["l2", "n"] [])], .fref ["l2", "u"] [])],
      .eq (.fref ["b"] []) (.fref ["lb", "u"] []),
      .eq (.fref ["y"] []) (.bin "+" (.fref ["l2", "u"] [.lit 1]) (.fref ["b"] []))],
     [.eq (.fref ["lb", "w"] [.var ["lb", "n"] []]) (.num 0),
      .eq (.fref ["l2", "w"] [.var ["l2", "n"] []]) (.num 0)]⟩

theorem flattenF_ex : flattenF 6 exLib ["M"] = .ok exFlatVal := by decide +kernel

theorem exFlat_eq : exFlat = exFlatVal := by
  unfold exFlat
  rw [flattenF_ex]

theorem exFlat_ok : flattenF 6 exLib ["M"] = .ok exFlat := by
  rw [exFlat_eq]
  exact flattenF_ex

theorem exFlat_paths : exFlat.vars.map (·.path) =
    [["lb", "k"], ["lb", "n"], ["lb", "u"], ["lb", "w"], ["b"], ["l2", "k"], ["l2", "n"], ["l2", "u"], ["l2", "w"],
     ["y"]] := by
  rw [exFlat_eq]
  rfl

/-- the leaf `b` of `M`: the declaration's `start = 1` in `Base`, then the `start = 3` of `M`'s
    extends clause, both written at the top level -/
def exB : Var := ⟨["b"], "Real", [], [], [⟨["start"], [], .num 1⟩, ⟨["start"], [], .num 3⟩]⟩

theorem exInst_b : ∃ r, instTop 6 exLib ["M"] = .ok r ∧ exB ∈ r.1 := by
  have h : ((instTop 6 exLib ["M"]).toOption.map fun r => r.1[4]?) = some (some exB) := by decide +kernel
  cases hr : instTop 6 exLib ["M"] with
  | error e =>
    rw [hr] at h
    cases h
  | ok r =>
    rw [hr] at h
    exact ⟨r, rfl, List.mem_of_getElem? (Option.some.inj h)⟩

end PymocaVerif.Flatten
