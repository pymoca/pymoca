import PymocaVerif.Model.ExprSpec
import PymocaVerif.Lemmas.ExprGrammar
/-!
# Every text of the specification's expression grammar is a Modelica print (C03)

`spec_sound` (induction on the fuel of the reference reader): whatever a nonterminal reads, the text it consumed
is `mpr` of a tree that differs from the result only by `paren` nodes.  Hence `spec_text_is_print`.  Core Lean only.
-/
namespace PymocaVerif.ExprGrammar

theorem bin_sym {s : Sym} {o : BOp} (h : s.bin? = some o) : s = o.sym := by
  cases s <;> cases h <;> rfl
theorem pow_sym {s : Sym} {w : WOp} (h : s.pow? = some w) : s = w.sym := by
  cases s <;> cases h <;> rfl

/-- What a successful reading at level `m` means: the text consumed is the Modelica print of a tree `c` of level
at least `m` that differs from the result only by `paren` nodes.  (`c` needs no parentheses of its own at any
level up to its own, so its print at level 0 is its print at all of them.) -/
def Reads (m : Nat) (s : E) (r ts : List Tok) : Prop := ∃ c, strip c = s ∧ m ≤ c.mlevel ∧ mpr 0 c ++ r = ts

theorem Reads.mono {m m' : Nat} {s r ts} (h : Reads m s r ts) (hle : m' ≤ m) : Reads m' s r ts :=
  let ⟨c, h1, h2, h3⟩ := h
  ⟨c, h1, Nat.le_trans hle h2, h3⟩

theorem spec_sound : ∀ f,
    (∀ ts s r, sPrimary f ts = some (s, r) → Reads 8 s r ts) ∧
    (∀ m ts s r, 1 ≤ m → m ≤ 7 → sLevel f m ts = some (s, r) → Reads m s r ts) ∧
    (∀ m l ts s r, LoopLvl m → m ≤ l.mlevel → sLoop f m (strip l) ts = some (s, r) →
      Reads m s r (mpr 0 l ++ ts)) ∧
    (∀ ts s r, sExpr f ts = some (s, r) → Reads 0 s r ts) ∧
    (∀ ts s r, sEls f ts = some (s, r) → ∃ c, stripEls c = s ∧ mprEls c ++ r = ts) ∧
    (∀ ts s r, sArgs f ts = some (s, r) → ∃ c, stripArgs c = s ∧ c ≠ Args.nil ∧ mprArgs c ++ r = ts) := by
  intro f
  induction f with
  | zero => exact ⟨nofun, nofun, nofun, nofun, nofun, nofun⟩
  | succ f ih =>
    obtain ⟨ihP, ihV, ihL, ihX, ihS, ihA⟩ := ih
    -- `if c then t {elseif …} else e`, shared by `sExpr` and `sEls`
    have cond : ∀ {r0 c0 r1 t r2 el r3}, sExpr f r0 = some (c0, Tok.kthen :: r1) → sExpr f r1 = some (t, r2) →
        sEls f r2 = some (el, r3) → ∃ cc ct ce, strip cc = c0 ∧ strip ct = t ∧ stripEls ce = el ∧
          mpr 0 cc ++ Tok.kthen :: (mpr 0 ct ++ mprEls ce) ++ r3 = r0 := by
      intro r0 c0 r1 t r2 el r3 h1 h2 h3
      obtain ⟨cc, hc, _, rfl⟩ := ihX _ _ _ h1
      obtain ⟨ct, ht, _, rfl⟩ := ihX _ _ _ h2
      obtain ⟨ce, he, rfl⟩ := ihS _ _ _ h3
      exact ⟨cc, ct, ce, hc, ht, he, by simp⟩
    refine ⟨?_, ?_, ?_, ?_, ?_, ?_⟩
    · intro ts s r h
      unfold sPrimary at h
      split at h
      · split at h
        · next n r' =>
          cases h
          exact ⟨.call n .nil, rfl, Nat.le_refl _, rfl⟩
        · next n r' _ =>
          split at h
          · next as r'' heq =>
            obtain ⟨cas, rfl, _, rfl⟩ := ihA _ _ _ heq
            cases h
            exact ⟨.call n cas, rfl, Nat.le_refl _, rfl⟩
          · cases h
        · cases h
          exact ⟨.atom _, rfl, Nat.le_refl _, rfl⟩
      · split at h
        · next heq =>
          obtain ⟨c', rfl, _, rfl⟩ := ihX _ _ _ heq
          cases h
          exact ⟨.paren c', rfl, Nat.le_refl _, by simp [mpr]⟩
        · cases h
      · cases h
    · intro m ts s r hm1 hm7 h
      -- `X {op X}`: what the loop reads is appended to what `X` read
      have plain : ∀ (k : Nat), LoopLvl k →
          (match sLevel f (k+1) ts with
            | some (l, r) => sLoop f k l r
            | none => none) = some (s, r) → Reads k s r ts := by
        intro k hk h'
        have hk6 := hk.le_six
        split at h'
        · next heq =>
          obtain ⟨cl, rfl, hl, rfl⟩ := ihV _ _ _ _ (by omega) (by omega) heq
          exact ihL k cl _ s r hk (by omega) h'
        · cases h'
      unfold sLevel at h
      split at h
      · exact plain 1 (Or.inl rfl) h
      · exact plain 2 (Or.inr (Or.inl rfl)) h
      · split at h
        · split at h
          · next heq =>
            obtain ⟨ce, rfl, he, rfl⟩ := ihV _ _ _ _ (by decide) (by decide) heq
            cases h
            exact ⟨.pre .not ce, rfl, Nat.le_refl _, by simp [mpr, POp.mlv, POp.sym, mpr_zero he]⟩
          · cases h
        · exact (ihV _ _ _ _ (by decide) (by decide) h).mono (by decide)
      · split at h
        · next heq =>
          have ha := (ihV _ _ _ _ (by decide) (by decide) heq)
          split at h
          · next o ho =>
            split at h
            · next ho4 =>
              split at h
              · next heqb =>
                obtain ⟨ca, rfl, ha2, rfl⟩ := ha
                obtain ⟨cb, rfl, hb2, rfl⟩ := ihV _ _ _ _ (by decide) (by decide) heqb
                cases h
                refine ⟨.bin o ca cb, rfl, Nat.le_of_eq ho4.symm, ?_⟩
                simp [mpr, BOp.mlv_of_rel ho4, mpr_zero ha2, mpr_zero hb2, bin_sym ho]
              · cases h
            · cases h
              exact ha.mono (by decide)
          · cases h
            exact ha.mono (by decide)
        · next heq =>
          cases h
          exact (ihV _ _ _ _ (by decide) (by decide) heq).mono (by decide)
        · cases h
      · have signed : ∀ (q : POp) (r0 : List Tok), q ≠ POp.not → ts = Tok.op q.sym :: r0 →
            (match sLevel f 6 r0 with
              | some (t, r') => sLoop f 5 (E.pre q t) r'
              | none => none) = some (s, r) → Reads 5 s r ts := by
          intro q r0 hq hts h'
          split at h'
          · next heq =>
            obtain ⟨ct, rfl, ht, rfl⟩ := ihV _ _ _ _ (by decide) (by decide) heq
            have := ihL 5 (.pre q ct) _ s r (Or.inr (Or.inr (Or.inl rfl)))
              (Nat.le_of_eq (by rw [E.mlevel, POp.mlv_sign hq])) h'
            rw [hts]
            simpa [mpr, POp.mlv_sign hq, mpr_zero ht] using this
          · cases h'
        split at h
        · next r0 => exact signed .pos r0 nofun rfl h
        · next r0 => exact signed .neg r0 nofun rfl h
        · exact plain 5 (Or.inr (Or.inr (Or.inl rfl))) h
      · exact plain 6 (Or.inr (Or.inr (Or.inr rfl))) h
      · split at h
        · next heq =>
          have ha := ihP _ _ _ heq
          split at h
          · next w hw =>
            split at h
            · next heqb =>
              obtain ⟨ca, rfl, ha2, rfl⟩ := ha
              obtain ⟨cb, rfl, hb2, rfl⟩ := ihP _ _ _ heqb
              cases h
              exact ⟨.pow w ca cb, rfl, Nat.le_refl _, by simp [mpr, mpr_zero ha2, mpr_zero hb2, pow_sym hw]⟩
            · cases h
          · cases h
            exact ha.mono (by decide)
        · next heq =>
          cases h
          exact (ihP _ _ _ heq).mono (by decide)
        · cases h
      · cases h
    · intro m l ts s r hl hml h
      unfold sLoop at h
      have stop : some (strip l, ts) = some (s, r) → Reads m s r (mpr 0 l ++ ts) := by
        intro h'
        cases h'
        exact ⟨l, rfl, hml, rfl⟩
      split at h
      · split at h
        · next o ho =>
          split at h
          · next hom =>
            split at h
            · next heqb =>
              obtain ⟨cb, rfl, hb2, rfl⟩ := ihV _ _ _ _ (Nat.le_add_left 1 m) (Nat.succ_le_succ hl.le_six) heqb
              obtain ⟨hl1, hl2⟩ := loop_op_levels hl hom
              have := ihL m (.bin o l cb) _ s r hl (Nat.le_of_eq hom.symm) h
              simpa [mpr, hl1, hl2, mpr_zero hml, mpr_zero hb2, bin_sym ho] using this
            · cases h
          · exact stop h
        · exact stop h
      · exact stop h
    · intro ts s r h
      unfold sExpr at h
      split at h
      · split at h
        · next heq1 =>
          split at h
          · next heq2 =>
            split at h
            · next heq3 =>
              obtain ⟨cc, ct, ce, rfl, rfl, rfl, rfl⟩ := cond heq1 heq2 heq3
              cases h
              exact ⟨.ite cc ct ce, rfl, Nat.le_refl _, by simp [mpr]⟩
            · cases h
          · cases h
        · cases h
      · exact (ihV _ _ _ _ (by decide) (by decide) h).mono (by decide)
    · intro ts s r h
      unfold sEls at h
      split at h
      · split at h
        · next heq =>
          obtain ⟨ce, rfl, _, rfl⟩ := ihX _ _ _ heq
          cases h
          exact ⟨.els ce, rfl, rfl⟩
        · cases h
      · split at h
        · next heq1 =>
          split at h
          · next heq2 =>
            split at h
            · next heq3 =>
              obtain ⟨cc, ct, ce, rfl, rfl, rfl, rfl⟩ := cond heq1 heq2 heq3
              cases h
              exact ⟨.elif cc ct ce, rfl, by simp [mprEls]⟩
            · cases h
          · cases h
        · cases h
      · cases h
    · intro ts s r h
      unfold sArgs at h
      split at h
      · next heq =>
        obtain ⟨ce, rfl, _, rfl⟩ := ihX _ _ _ heq
        split at h
        · next heqa =>
          obtain ⟨cas, rfl, ha2, rfl⟩ := ihA _ _ _ heqa
          cases h
          refine ⟨.cons ce cas, rfl, nofun, ?_⟩
          match cas, ha2 with
          | .cons e' rest', _ => simp [mprArgs]
        · cases h
      · next heq =>
        obtain ⟨ce, rfl, _, rfl⟩ := ihX _ _ _ heq
        cases h
        exact ⟨.cons ce .nil, rfl, nofun, by simp [mprArgs]⟩
      · cases h

/-- **Every text the specification's expression grammar derives is the Modelica print of a tree** whose
reading it is (up to `paren` nodes). -/
theorem spec_text_is_print {f ts s} (h : specParse f ts = some s) : ∃ c, strip c = s ∧ mprint c = ts := by
  unfold specParse at h
  split at h
  · next heq =>
    cases h
    -- `.2.2.2.1` is the clause of `spec_sound` about `sExpr`
    obtain ⟨c, h1, _, h2⟩ := (spec_sound f).2.2.2.1 _ _ _ heq
    exact ⟨c, h1, by simpa [mprint] using h2⟩
  · cases h

end PymocaVerif.ExprGrammar
