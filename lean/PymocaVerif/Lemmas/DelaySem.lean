import PymocaVerif.Lemmas.DelayWriter
/-!
# The translation preserves every delayed expression and duration

The four evaluators of the statements (`eval`, `evalS`, `evalL`, `evalSL`) are instances of one,
`evalG`, which takes the value of a plain reference and of a `delay` node as parameters.  For it
there is one preservation theorem (`trE_sem`), for any loop context: if the input standing for each
node of `e` carries the node's value, the translation of `e` evaluates like `e`, and so do the
translated operands of every node of `e`.
-/
namespace PymocaVerif.Delay
open PymocaVerif.Classify (Cat derName delayName)

/-- Meaning of a *source* expression when the value of every delayed quantity is given by `τ`
    (keyed by the identity of the `delay` node). -/
def evalS (ρ : Env) (τ : Nat → Option Rat) : Expr → Option Rat
  | .lit q => some q
  | .time => some ρ.time
  | .ref n => ρ.val n 0
  | .idx n i => (evalS ρ τ i).bind fun q => (toIndex q).bind fun j => ρ.val n j
  | .der n => ρ.val (derName n) 0
  | .derAt n i => (evalS ρ τ i).bind fun q => (toIndex q).bind fun j => ρ.val (derName n) j
  | .un f e => (evalS ρ τ e).map (applyUn f)
  | .ite c t e => (evalS ρ τ c).bind fun x => if x = 0 then evalS ρ τ e else evalS ρ τ t
  | .bin o a b => (evalS ρ τ a).bind fun x => (evalS ρ τ b).bind fun y => applyBin o x y
  | .delay id _ _ => τ id
  | .dsym k => ρ.val (delayName k) 0
  | .dsymAt k i => (evalS ρ τ i).bind fun q => (toIndex q).bind fun j => ρ.val (delayName k) j

/-- What is recorded for one source node: a scalar argument whose expression and duration
    evaluate like the node's operands. -/
def Preserved (ρ : Env) (τ : Nat → Option Rat) (a : DArg) (nd : DNode) : Prop :=
  a.id = nd.1 ∧ a.vec = false ∧ a.exprs.map (eval ρ) = [evalS ρ τ nd.2.1] ∧ eval ρ a.dur = evalS ρ τ nd.2.2

def evalEq (ρ : Env) : Equation → Option (Option Rat × Option Rat)
  | .eq l r => some (eval ρ l, eval ρ r)
  | .forEq _ _ _ => none

def evalSEq (ρ : Env) (τ : Nat → Option Rat) : Equation → Option (Option Rat × Option Rat)
  | .eq l r => some (evalS ρ τ l, evalS ρ τ r)
  | .forEq _ _ _ => none

def Plain : Equation → Prop
  | .eq _ _ => True
  | .forEq _ _ _ => False

/-- Evaluation inside iteration `c` of a loop over `v`. -/
def evalL (ρ : Env) (v : String) (c : Nat) : Expr → Option Rat
  | .lit q => some q
  | .time => some ρ.time
  | .ref n => if n = v then some ((c : Int) : Rat) else ρ.val n 0
  | .idx n i => (evalL ρ v c i).bind fun q => (toIndex q).bind fun j => ρ.val n j
  | .der n => ρ.val (derName n) 0
  | .derAt n i => (evalL ρ v c i).bind fun q => (toIndex q).bind fun j => ρ.val (derName n) j
  | .un f e => (evalL ρ v c e).map (applyUn f)
  | .ite x t e => (evalL ρ v c x).bind fun y => if y = 0 then evalL ρ v c e else evalL ρ v c t
  | .bin o a b => (evalL ρ v c a).bind fun x => (evalL ρ v c b).bind fun y => applyBin o x y
  | .delay _ _ _ => none
  | .dsym k => ρ.val (delayName k) 0
  | .dsymAt k i => (evalL ρ v c i).bind fun q => (toIndex q).bind fun j => ρ.val (delayName k) j

/-- Meaning of a *source* expression in iteration `c` of a loop over `v`; `τ id c` is the value of
    the delayed quantity of node `id` in that iteration. -/
def evalSL (ρ : Env) (τ : Nat → Nat → Option Rat) (v : String) (c : Nat) : Expr → Option Rat
  | .lit q => some q
  | .time => some ρ.time
  | .ref n => if n = v then some ((c : Int) : Rat) else ρ.val n 0
  | .idx n i => (evalSL ρ τ v c i).bind fun q => (toIndex q).bind fun j => ρ.val n j
  | .der n => ρ.val (derName n) 0
  | .derAt n i => (evalSL ρ τ v c i).bind fun q => (toIndex q).bind fun j => ρ.val (derName n) j
  | .un f e => (evalSL ρ τ v c e).map (applyUn f)
  | .ite x t e => (evalSL ρ τ v c x).bind fun y => if y = 0 then evalSL ρ τ v c e else evalSL ρ τ v c t
  | .bin o a b => (evalSL ρ τ v c a).bind fun x => (evalSL ρ τ v c b).bind fun y => applyBin o x y
  | .delay id _ _ => τ id c
  | .dsym k => ρ.val (delayName k) 0
  | .dsymAt k i => (evalSL ρ τ v c i).bind fun q => (toIndex q).bind fun j => ρ.val (delayName k) j

/-- The input of a recorded argument carries the node's value in every iteration: element `c` of
    the vector input for a loop-indexed delay, the scalar input otherwise. -/
def LoopCons (ρ : Env) (τ : Nat → Nat → Option Rat) (n : Nat) (a : DArg) : Prop :=
  ∀ c, 1 ≤ c → c ≤ n →
    (if a.vec then ρ.val (delayName a.k) c = τ a.id c else ρ.val (delayName a.k) 0 = τ a.id c)

/-- What is recorded for one source node of a loop body. -/
def PreservedL (ρ : Env) (τ : Nat → Nat → Option Rat) (v : String) (n : Nat) (a : DArg) (nd : DNode) : Prop :=
  a.id = nd.1 ∧
  (∀ c, 1 ≤ c → c ≤ n → evalL ρ v c a.dur = evalSL ρ τ v c nd.2.2) ∧
  (if a.vec then a.exprs.map (eval ρ) = (List.range n).map (fun j => evalSL ρ τ v (j + 1) nd.2.1)
   else ∃ x, a.exprs = [x] ∧ ∀ c, 1 ≤ c → c ≤ n → evalL ρ v c x = evalSL ρ τ v c nd.2.1)

/-- `r` is the value of a plain reference (an iteration fixes the loop variable there), `τ` the
    value of a `delay` node (`none` for translated expressions, which have no such node). -/
def evalG (ρ : Env) (r : String → Option Rat) (τ : Nat → Option Rat) : Expr → Option Rat
  | .lit q => some q
  | .time => some ρ.time
  | .ref n => r n
  | .idx n i => (evalG ρ r τ i).bind fun q => (toIndex q).bind fun j => ρ.val n j
  | .der n => ρ.val (derName n) 0
  | .derAt n i => (evalG ρ r τ i).bind fun q => (toIndex q).bind fun j => ρ.val (derName n) j
  | .un f e => (evalG ρ r τ e).map (applyUn f)
  | .ite c t e => (evalG ρ r τ c).bind fun x => if x = 0 then evalG ρ r τ e else evalG ρ r τ t
  | .bin o a b => (evalG ρ r τ a).bind fun x => (evalG ρ r τ b).bind fun y => applyBin o x y
  | .delay id _ _ => τ id
  | .dsym k => ρ.val (delayName k) 0
  | .dsymAt k i => (evalG ρ r τ i).bind fun q => (toIndex q).bind fun j => ρ.val (delayName k) j

/-- References outside a loop. -/
abbrev ref0 (ρ : Env) : String → Option Rat := fun n => ρ.val n 0

/-- References in iteration `c` of a loop over `v`. -/
abbrev refL (ρ : Env) (v : String) (c : Nat) : String → Option Rat :=
  fun n => if n = v then some ((c : Int) : Rat) else ρ.val n 0

abbrev noDelay : Nat → Option Rat := fun _ => none

theorem eval_eq (ρ : Env) (e : Expr) : eval ρ e = evalG ρ (ref0 ρ) noDelay e := by
  induction e <;> simp only [eval, evalG, *]

theorem evalS_eq (ρ : Env) (τ : Nat → Option Rat) (e : Expr) : evalS ρ τ e = evalG ρ (ref0 ρ) τ e := by
  induction e <;> simp only [evalS, evalG, *]

theorem evalL_eq (ρ : Env) (v : String) (c : Nat) (e : Expr) : evalL ρ v c e = evalG ρ (refL ρ v c) noDelay e := by
  induction e <;> simp only [evalL, evalG, *]

theorem evalSL_eq (ρ : Env) (τ : Nat → Nat → Option Rat) (v : String) (c : Nat) (e : Expr) :
    evalSL ρ τ v c e = evalG ρ (refL ρ v c) (τ · c) e := by
  induction e <;> simp only [evalSL, evalG, *]

/-- Mapping a loop-indexed argument over the loop values is evaluating it in each iteration. -/
theorem eval_substVar (ρ : Env) (v : String) (c : Nat) (e : Expr) : eval ρ (substVar v c e) = evalL ρ v c e := by
  induction e with
  | ref n =>
    simp only [substVar, evalL]
    split <;> rfl
  | _ => simp only [substVar, eval, evalL, *]

theorem toIndex_natCast {c : Nat} (h : 1 ≤ c) : toIndex ((c : Int) : Rat) = some c := by
  have hp : (c : Int) > 0 := by omega
  rw [toIndex, Rat.den_intCast, Rat.num_intCast, if_pos ⟨rfl, hp⟩, Int.toNat_natCast]

/-- The input that replaced the located node `p` carries the node's value. -/
def InputOk (ρ : Env) (r : String → Option Rat) (τ : Nat → Option Rat) (lp : Option (String × Nat))
    (p : Nat × DNode) : Prop :=
  evalG ρ r noDelay (newSym lp (number p) (trE lp p.2.expr p.1)) = τ p.2.1

/-- The translated operands of the located node `p` evaluate like its operands. -/
def OperandsOk (ρ : Env) (r : String → Option Rat) (τ : Nat → Option Rat) (lp : Option (String × Nat))
    (p : Nat × DNode) : Prop :=
  evalG ρ r noDelay (trE lp p.2.expr p.1) = evalG ρ r τ p.2.expr ∧
  evalG ρ r noDelay (trE lp p.2.dur (p.1 + ndelays p.2.expr)) = evalG ρ r τ p.2.dur

theorem trE_sem {ρ : Env} {r : String → Option Rat} {τ : Nat → Option Rat} {lp : Option (String × Nat)}
    {e : Expr} {k : Nat} (h : ∀ p ∈ located e k, InputOk ρ r τ lp p) :
    evalG ρ r noDelay (trE lp e k) = evalG ρ r τ e ∧ ∀ p ∈ located e k, OperandsOk ρ r τ lp p := by
  induction e generalizing k with
  | lit | time | ref | der | dsym => exact ⟨rfl, nofun⟩
  | idx _ _ ih | derAt _ _ ih | un _ _ ih | dsymAt _ _ ih =>
    exact ⟨by simp only [trE, evalG, (ih h).1], (ih h).2⟩
  | ite x t e ihx iht ihe =>
    simp only [located, List.forall_mem_append] at h ⊢
    obtain ⟨x1, x2⟩ := ihx h.1.1
    obtain ⟨t1, t2⟩ := iht h.1.2
    obtain ⟨e1, e2⟩ := ihe h.2
    exact ⟨by simp only [trE, evalG, x1, t1, e1], ⟨x2, t2⟩, e2⟩
  | bin o a b iha ihb =>
    simp only [located, List.forall_mem_append] at h ⊢
    obtain ⟨a1, a2⟩ := iha h.1
    obtain ⟨b1, b2⟩ := ihb h.2
    exact ⟨by simp only [trE, evalG, a1, b1], a2, b2⟩
  | delay id a d iha ihd =>
    -- the node itself is the last located node: its input carries `τ id` by hypothesis
    simp only [located, List.forall_mem_append, List.forall_mem_singleton] at h ⊢
    obtain ⟨a1, a2⟩ := iha h.1.1
    obtain ⟨d1, d2⟩ := ihd h.1.2
    exact ⟨h.2, ⟨a2, d2⟩, a1, d1⟩

theorem locatedAll_sem {ρ : Env} {r : String → Option Rat} {τ : Nat → Option Rat} {es : List CExpr} {k : Nat}
    (h : ∀ x ∈ locatedAll es k, InputOk ρ r τ x.1 x.2) : ∀ x ∈ locatedAll es k, OperandsOk ρ r τ x.1 x.2 := by
  induction es generalizing k with
  | nil => nofun
  | cons y es ih =>
    simp only [locatedAll, List.forall_mem_append, List.forall_mem_map] at h ⊢
    exact ⟨(trE_sem h.1).2, ih h.2⟩

theorem inputOk_plain {ρ : Env} {τ : Nat → Option Rat} {p : Nat × DNode}
    (h : ρ.val (delayName (argOf none p).k) 0 = τ (argOf none p).id) : InputOk ρ (ref0 ρ) τ none p := by
  rw [argOf, newArg_k, newArg_id] at h
  simpa only [InputOk, newSym, evalG] using h

theorem preserved_argOf {ρ : Env} {τ : Nat → Option Rat} {p : Nat × DNode} (h : OperandsOk ρ (ref0 ρ) τ none p) :
    Preserved ρ τ (argOf none p) p.2 :=
  ⟨rfl, rfl, by simp only [argOf, newArg, List.map_cons, List.map_nil, eval_eq, evalS_eq, h.1],
    by simp only [argOf, newArg, eval_eq, evalS_eq, h.2]⟩

theorem plain_ctx {qs : List Equation} (hp : ∀ q ∈ qs, Plain q) {k : Nat} {x : CNode}
    (hx : x ∈ locatedAll (qs.flatMap eqExprs) k) : x.1 = none := by
  have hm := mem_ctxNodes_of_locatedAll hx
  rw [ctxNodes, List.flatMap_assoc] at hm
  obtain ⟨q, hq, hm⟩ := List.mem_flatMap.mp hm
  cases q with
  | forEq => exact absurd (hp _ hq) id
  | eq l r =>
    have hm : (x.1, x.2.2) ∈ ctxNodes (eqExprs (.eq l r)) := hm
    rw [ctxNodes_eqExprs] at hm
    obtain ⟨nd, -, h⟩ := List.mem_map.mp hm
    exact (congrArg Prod.fst h).symm

theorem trEqs_sem {ρ : Env} {τ : Nat → Option Rat} {qs : List Equation} {s : St} (hp : ∀ q ∈ qs, Plain q)
    (h : ∀ x ∈ locatedAll (qs.flatMap eqExprs) s.next, InputOk ρ (ref0 ρ) τ x.1 x.2) :
    (trEqs qs s).1.map (evalEq ρ) = qs.map (evalSEq ρ τ) := by
  induction qs generalizing s with
  | nil => rfl
  | cons q qs ih =>
    cases q with
    | forEq => exact absurd (hp _ List.mem_cons_self) id
    | eq l r =>
      simp only [List.flatMap_cons, eqExprs, List.cons_append, List.nil_append, locatedAll,
        List.forall_mem_append, List.forall_mem_map] at h
      simp only [trEqs, trEq, tr_eq, List.map_cons, evalEq, evalSEq, eval_eq, evalS_eq,
        (trE_sem h.1).1, (trE_sem h.2.1).1]
      rw [ih (fun q' hq' => hp q' (List.mem_cons_of_mem _ hq')) h.2.2]

theorem trEqs_preserved {ρ : Env} {τ : Nat → Option Rat} {qs : List Equation} (s : St) (hp : ∀ q ∈ qs, Plain q)
    (hc : ∀ a ∈ (locatedAll (qs.flatMap eqExprs) s.next).map argOfC, ρ.val (delayName a.k) 0 = τ a.id) :
    (trEqs qs s).1.map (evalEq ρ) = qs.map (evalSEq ρ τ) ∧
    ∀ x ∈ locatedAll (qs.flatMap eqExprs) s.next, Preserved ρ τ (argOfC x) x.2.2 := by
  have hin : ∀ x ∈ locatedAll (qs.flatMap eqExprs) s.next, InputOk ρ (ref0 ρ) τ x.1 x.2 := by
    intro ⟨lp, p⟩ hx
    cases plain_ctx hp hx
    exact inputOk_plain (hc _ (List.mem_map_of_mem hx))
  refine ⟨trEqs_sem hp hin, ?_⟩
  intro ⟨lp, p⟩ hx
  cases plain_ctx hp hx
  exact preserved_argOf (locatedAll_sem hin _ hx)

theorem translate_preserved {ρ : Env} {τ : Nat → Option Rat} {ieqs eqs : List Equation}
    (hi : ∀ q ∈ ieqs, Plain q) (he : ∀ q ∈ eqs, Plain q)
    (hc : ∀ a ∈ (translate ieqs eqs).args, ρ.val (delayName a.k) 0 = τ a.id) :
    (translate ieqs eqs).ieqs.map (evalEq ρ) = ieqs.map (evalSEq ρ τ) ∧
    (translate ieqs eqs).eqs.map (evalEq ρ) = eqs.map (evalSEq ρ τ) ∧
    ∀ x ∈ locatedAll (modelExprs ieqs eqs) 0, Preserved ρ τ (argOfC x) x.2.2 := by
  -- the walk over the equations starts at the counter at which that over the initial equations stopped
  have hn : (trEqs ieqs ⟨0, [], true⟩).2.next = ndelaysAll (ieqs.flatMap eqExprs) :=
    (trEqs_state ieqs ⟨0, [], true⟩).1.trans (Nat.zero_add _)
  rw [translate_args, modelExprs, locatedAll_append, Nat.zero_add, List.map_append, List.forall_mem_append] at hc
  obtain ⟨i1, i2⟩ := trEqs_preserved ⟨0, [], true⟩ hi hc.1
  obtain ⟨e1, e2⟩ := trEqs_preserved (trEqs ieqs ⟨0, [], true⟩).2 he (hn ▸ hc.2)
  rw [modelExprs, locatedAll_append, Nat.zero_add, List.forall_mem_append]
  exact ⟨i1, e1, i2, hn ▸ e2⟩

theorem inputOk_loop {ρ : Env} {τ : Nat → Nat → Option Rat} {v : String} {n : Nat} {p : Nat × DNode}
    (h : LoopCons ρ τ n (argOf (some (v, n)) p)) {c : Nat} (h1 : 1 ≤ c) (h2 : c ≤ n) :
    InputOk ρ (refL ρ v c) (τ · c) (some (v, n)) p := by
  have := h c h1 h2
  simp only [argOf, newArg_some] at this
  simp only [InputOk, newSym]
  cases hm : mentionsIndexed v (trE (some (v, n)) p.2.expr p.1)
  · simpa only [hm, Bool.false_eq_true, if_false, evalG] using this
  · simpa only [hm, if_true, evalG, refL, Option.bind_some, toIndex_natCast h1] using this

theorem preservedL_argOf {ρ : Env} {τ : Nat → Nat → Option Rat} {v : String} {n : Nat} {p : Nat × DNode}
    (h : ∀ c, 1 ≤ c → c ≤ n → OperandsOk ρ (refL ρ v c) (τ · c) (some (v, n)) p) :
    PreservedL ρ τ v n (argOf (some (v, n)) p) p.2 := by
  refine ⟨?_, fun c h1 h2 => ?_, ?_⟩
  · rw [argOf, newArg_id]
  · rw [argOf, newArg_dur, evalL_eq, evalSL_eq, (h c h1 h2).2]
  simp only [argOf, newArg_some]
  split
  · -- loop-indexed: entry `j` of the vector is the expression in iteration `j + 1`
    rw [List.map_map]
    refine List.map_congr_left fun j hj => ?_
    have hj' : j < n := List.mem_range.mp hj
    rw [Function.comp_apply, eval_substVar, evalL_eq, evalSL_eq, (h (j + 1) (by omega) (by omega)).1]
  · exact ⟨_, rfl, fun c h1 h2 => by rw [evalL_eq, evalSL_eq, (h c h1 h2).1]⟩

theorem pair_ctx {lp : Option (String × Nat)} {body : List (Expr × Expr)} {k : Nat} {x : CNode}
    (hx : x ∈ locatedAll (pairExprs lp body) k) : x.1 = lp ∧ x.2.2 ∈ pairNodes body := by
  obtain ⟨nd, hnd, h⟩ := List.mem_map.mp (ctxNodes_pairExprs lp body ▸ mem_ctxNodes_of_locatedAll hx)
  exact ⟨(congrArg Prod.fst h).symm, congrArg Prod.snd h ▸ hnd⟩

theorem trPairs_sem {ρ : Env} {r : String → Option Rat} {τ : Nat → Option Rat} {lp : Option (String × Nat)}
    {body : List (Expr × Expr)} {s : St}
    (h : ∀ x ∈ locatedAll (pairExprs lp body) s.next, InputOk ρ r τ x.1 x.2) :
    (trPairs lp body s).1.map (fun p => (evalG ρ r noDelay p.1, evalG ρ r noDelay p.2)) =
      body.map (fun p => (evalG ρ r τ p.1, evalG ρ r τ p.2)) := by
  induction body generalizing s with
  | nil => rfl
  | cons p body ih =>
    simp only [pairExprs_cons, locatedAll, List.forall_mem_append, List.forall_mem_map] at h
    simp only [trPairs, tr_eq, List.map_cons, (trE_sem h.1).1, (trE_sem h.2.1).1]
    rw [ih h.2.2]

theorem trPairs_preserved {ρ : Env} {τ : Nat → Nat → Option Rat} {v : String} {n : Nat}
    {body : List (Expr × Expr)} {s : St}
    (hc : ∀ a ∈ (locatedAll (pairExprs (some (v, n)) body) s.next).map argOfC, LoopCons ρ τ n a) :
    (∀ c, 1 ≤ c → c ≤ n →
      (trPairs (some (v, n)) body s).1.map (fun p => (evalL ρ v c p.1, evalL ρ v c p.2)) =
        body.map (fun p => (evalSL ρ τ v c p.1, evalSL ρ τ v c p.2))) ∧
    ∀ x ∈ locatedAll (pairExprs (some (v, n)) body) s.next, PreservedL ρ τ v n (argOfC x) x.2.2 := by
  have hin : ∀ c, 1 ≤ c → c ≤ n → ∀ x ∈ locatedAll (pairExprs (some (v, n)) body) s.next,
      InputOk ρ (refL ρ v c) (τ · c) x.1 x.2 := by
    intro c h1 h2 ⟨lp, p⟩ hx
    cases (pair_ctx hx).1
    exact inputOk_loop (hc _ (List.mem_map_of_mem hx)) h1 h2
  refine ⟨fun c h1 h2 => ?_, ?_⟩
  · simp only [evalL_eq, evalSL_eq]
    exact trPairs_sem (hin c h1 h2)
  · intro ⟨lp, p⟩ hx
    cases (pair_ctx hx).1
    exact preservedL_argOf fun c h1 h2 => locatedAll_sem (hin c h1 h2) _ hx

end PymocaVerif.Delay
