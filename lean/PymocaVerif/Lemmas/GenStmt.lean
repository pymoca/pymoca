import PymocaVerif.Lemmas.GenClosed
import PymocaVerif.Lemmas.GenRange
/-!
# Lemmas for C11: `get_function` — sequential substitution computes what imperative execution does

A statement translates to a list of raw assignments `(x, term over the raw symbols)`.  `runRaw` evaluates
such a list directly on a store; `applyAssigns_inv` shows that applying the list by sequential
substitution (`applyAssigns`, what `get_function` does) keeps the symbolic values in step with `runRaw`;
the per-statement lemmas show that `runRaw` of the generated list refines the execution of the statement.
-/
namespace PymocaVerif.Gen
open PymocaVerif.ExprSem

theorem get_cons (x y : String) (s : CTerm K) (σ : SymVals K) :
    SymVals.get ((x, s) :: σ) y = if x = y then some s else SymVals.get σ y := rfl

theorem store_get_cons (x y : String) (v : List K) (σ : Store K) :
    Store.get ((x, v) :: σ) y = if x = y then some v else Store.get σ y := rfl

theorem bind_storeEnv (σ : Store K) (i : String) (v : Int) :
    (storeEnv σ (fun _ => none)).bind i v = storeEnv σ (fun x => if x = i then some v else none) := rfl

/-- Evaluate raw assignments one after the other directly on a store. -/
def runRaw (P : Prims K) : List (String × CTerm K) → Store K → Option (Store K)
  | [], σ => some σ
  | (x, t) :: rest, σ => do
    let v ← evalC P (storeEnv σ (fun _ => none)) t
    runRaw P rest ((x, v) :: σ)

theorem runRaw_append (P : Prims K) (a b : List (String × CTerm K)) : ∀ σ : Store K,
    runRaw P (a ++ b) σ = (runRaw P a σ >>= runRaw P b) := by
  induction a with
  | nil => exact fun _ => rfl
  | cons p rest ih =>
    intro σ
    simp only [List.cons_append, runRaw]
    cases evalC P (storeEnv σ fun _ => none) p.2 with
    | none => rfl
    | some v => exact ih _

/-- The symbolic values describe the store: every variable's term evaluates (over the inputs) to what
    the store holds, unassigned variables are unassigned on both sides, and all terms are closed. -/
structure Inv (P : Prims K) (ρin : Env K) (vals : SymVals K) (σ : Store K) : Prop where
  val : ∀ x, (over P ρin vals).val x = Store.get σ x
  closed : ValsClosed vals

theorem over_eq_storeEnv {P : Prims K} {ρin : Env K} {vals : SymVals K} {σ : Store K}
    (hsh : ρin.shape = fun _ => none) (hix : ρin.idx = fun _ => none)
    (h : ∀ x, (over P ρin vals).val x = Store.get σ x) :
    over P ρin vals = storeEnv σ (fun _ => none) := by
  have hv : (over P ρin vals).val = fun x => Store.get σ x := funext h
  simp only [over] at hv ⊢
  rw [storeEnv, hv, hsh, hix]

theorem get_init (inputs : List String) (y : String) :
    SymVals.get (inputs.map (fun x => (x, (CTerm.ref x [] : CTerm K)))) y =
      if y ∈ inputs then some (.ref y []) else none := by
  induction inputs with
  | nil => rfl
  | cons a rest ih =>
    simp only [List.map_cons, SymVals.get, ih, List.mem_cons]
    by_cases h : a = y
    · subst h
      simp only [if_true, true_or]
    · have h' : ¬ y = a := fun e => h e.symm
      simp only [if_neg h, h', false_or]

/-- Initially every input stands for itself. -/
theorem Inv.init (P : Prims K) (inputs : List String) (vs : List (List K)) :
    Inv P (funcEnv inputs vs) (inputs.map fun x => (x, .ref x [])) (inputs.zip vs) := by
  refine ⟨fun y => ?_, fun y s hy => ?_⟩
  · by_cases hy : y ∈ inputs
    · rw [over_val_some ((get_init inputs y).trans (if_pos hy))]
      rfl
    · rw [over_val_none ((get_init inputs y).trans (if_neg hy))]
      rfl
  · rw [get_init] at hy
    split at hy
    · cases hy; rfl
    · cases hy

theorem applyAssigns_inv {P : Prims K} {ρin : Env K} (hsh : ρin.shape = fun _ => none)
    (hix : ρin.idx = fun _ => none) {as : List (String × CTerm K)} {vals : SymVals K} {σ σ' : Store K}
    (hcl : ∀ p ∈ as, idxClosed [] p.2 = true) (hr : runRaw P as σ = some σ') (hinv : Inv P ρin vals σ) :
    Inv P ρin (applyAssigns vals as) σ' := by
  induction as generalizing vals σ with
  | nil => cases hr; exact hinv
  | cons p rest ih =>
    obtain ⟨x, t⟩ := p
    obtain ⟨v, hv, hr⟩ := Option.bind_eq_some_iff.mp hr
    -- the substituted term evaluates over the inputs to what `t` evaluates to on the store
    have hsub : evalC P ρin (subst vals t) = some v := by
      rw [evalC_subst P vals hinv.closed t ρin (fun y _ _ => congrFun hsh y),
        over_eq_storeEnv hsh hix hinv.val, hv]
    refine ih (fun p hp => hcl p (List.mem_cons_of_mem _ hp)) hr ⟨fun y => ?_, fun y s hy => ?_⟩
    · simp only [over, get_cons, store_get_cons]
      by_cases hxy : x = y
      · simp only [if_pos hxy]
        exact hsub
      · simp only [if_neg hxy]
        exact hinv.val y
    · rw [get_cons] at hy
      split at hy
      · cases hy
        exact subst_closed vals hinv.closed t (hcl (x, t) List.mem_cons_self)
      · exact hinv.closed y s hy

/-- What a statement's raw assignments have to satisfy. -/
structure StmtSpec (P : Prims K) (F : FSem K) (s : Stmt K) (as : List (String × CTerm K)) : Prop where
  closed : ∀ p ∈ as, idxClosed [] p.2 = true
  sem : ∀ σ : Store K, Refines (runRaw P as σ) (execStmt P F σ s)

theorem genRhs_closed {P : Prims K} {o : Opts} {T : FTab K} {B : List String} {body : List (String × MExpr K)}
    {rhs : List (String × CTerm K)} (hb : ∀ b ∈ body, mClosed B b.2 = true) (h : genRhs P o T body = .ok rhs) :
    ∀ q ∈ rhs, idxClosed B q.2 = true := by
  induction body generalizing rhs with
  | nil => cases h; exact nofun
  | cons p rest ih =>
    obtain ⟨t, ts, ht, hts, rfl⟩ := bind2_ok.mp h
    intro q hq
    rcases List.mem_cons.mp hq with rfl | hq
    · exact gen_closed p.2 (hb _ List.mem_cons_self) ht
    · exact ih (fun b hb' => hb b (List.mem_cons_of_mem _ hb')) hts q hq

/-! The right-hand sides of a block of assignments are translated entry by entry (`genRhs`); run as raw
assignments, possibly each under a wrapper `w` that supplies the loop index (`mapAt`), they do what the
block does. -/

section
variable {P : Prims K} {o : Opts} {T : FTab K} {F : FSem K} (hT : TabOK P T F) (hS : NoShadow T)
include hT hS

theorem runRaw_refines_execAssigns (ix : String → Option Int) (w : CTerm K → CTerm K)
    (hw : ∀ (σ : Store K) t, evalC P (storeEnv σ fun _ => none) (w t) = evalC P (storeEnv σ ix) t)
    {body : List (String × MExpr K)} {rhs : List (String × CTerm K)} (h : genRhs P o T body = .ok rhs)
    (σ : Store K) : Refines (runRaw P (rhs.map fun p => (p.1, w p.2)) σ) (execAssigns P F ix body σ) := by
  induction body generalizing rhs σ with
  | nil => cases h; exact Refines.refl
  | cons p rest ih =>
    obtain ⟨t, ts, ht, hts, rfl⟩ := bind2_ok.mp h
    simp only [List.map_cons, runRaw, execAssigns, hw]
    exact Refines.bind (gen_refines hT hS p.2 ht _) (fun v => ih hts _)

theorem runRaw_refines_execAssigns_plain {body : List (String × MExpr K)} {rhs : List (String × CTerm K)}
    (h : genRhs P o T body = .ok rhs) (σ : Store K) :
    Refines (runRaw P rhs σ) (execAssigns P F (fun _ => none) body σ) := by
  have := runRaw_refines_execAssigns hT hS (fun _ => none) id (fun _ _ => rfl) h σ
  rwa [List.map_id'' (f := fun p : String × CTerm K => (p.1, id p.2)) (fun _ => rfl)] at this

theorem genStmt_assign {x : String} {e : MExpr K} (he : mClosed [] e = true) {as : List (String × CTerm K)}
    (h : genStmt P o T (.assign x e) = .ok as) : StmtSpec P F (.assign x e) as := by
  have hr : genRhs P o T [(x, e)] = .ok as := by
    obtain ⟨t, ht, hc⟩ := bind_ok.mp h
    cases hc
    exact bind_ok.mpr ⟨t, ht, rfl⟩
  refine ⟨genRhs_closed (fun b hb => ?_) hr, runRaw_refines_execAssigns_plain hT hS hr⟩
  cases List.mem_singleton.mp hb
  exact he

theorem runRaw_refines_execFor (m : MapMode) (i : String) {body : List (String × MExpr K)}
    {rhs : List (String × CTerm K)} (hr : genRhs P o T body = .ok rhs) (vals : List Int) (σ : Store K) :
    Refines (runRaw P (vals.flatMap fun v => rhs.map fun p => (p.1, .mapAt m i v p.2)) σ)
      (execFor P F i body vals σ) := by
  induction vals generalizing σ with
  | nil => exact Refines.refl
  | cons v vs ih =>
    simp only [List.flatMap_cons, runRaw_append, execFor]
    -- one iteration: every `mapAt` entry evaluates its body with the loop index bound to `v`
    exact Refines.bind (runRaw_refines_execAssigns hT hS _ (.mapAt m i v) (fun _ _ => rfl) hr σ) ih

theorem genStmt_for {i : String} {start : Int} {stop : IdxE} {step : Int} {body : List (String × MExpr K)}
    (hb : ∀ b ∈ body, mClosed [i] b.2 = true) {as : List (String × CTerm K)}
    (h : genStmt P o T (.for i start stop step body) = .ok as) :
    StmtSpec P F (.for i start stop step body) as := by
  simp only [genStmt] at h
  cases hstop : stop.eval (fun _ => none) with
  | none =>
    rw [hstop] at h
    cases h
  | some hi =>
    simp only [hstop, pure_bind] at h
    by_cases hs : step = 0
    · rw [if_pos hs] at h
      cases h
    · rw [if_neg hs] at h
      obtain ⟨rhs, hrhs, hc⟩ := bind_ok.mp h
      cases hc
      refine ⟨fun p hp => ?_, fun σ => ?_⟩
      · obtain ⟨v, _, hp⟩ := List.mem_flatMap.mp hp
        obtain ⟨q, hq, rfl⟩ := List.mem_map.mp hp
        exact genRhs_closed hb hrhs q hq
      · simp only [execStmt, hstop, Option.bind_eq_bind, Option.bind_some]
        rw [← arangeCode_eq]
        exact runRaw_refines_execFor hT hS o.mapMode i hrhs (arangeCode start step hi) σ

end

end PymocaVerif.Gen
