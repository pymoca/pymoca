import PymocaVerif.Lemmas.SimplifyBase
/-!
# Simplify: `detect_aliases`, function by function, and that the pass keeps solutions

What `_detect_alias` finds and what that means, `_make_alias` as a choice of roles followed by a guarded `add`,
the detection loop by induction, the elimination loop in closed form.  Nothing here needs the invariant of the
alias relation.
-/
set_option linter.unusedSectionVars false
namespace PymocaVerif.Simplify
open PymocaVerif.AliasRel Lean.Grind

variable {K : Type} [Field K] [DecidableEq K]

/-- `σ` with the value of one symbol replaced -/
def setE (σ : Env K) (a : String) (x : K) : Env K := fun n => if n = a then x else σ n

/-- the expression determines the symbol `a`: equal values force equal `a` (the property's
    "affine with an invertible coefficient / bijective" precondition, semantically) -/
def InjIn (I : Interp K) (e : Ex K) (a : String) : Prop :=
  ∀ σ x y, e.eval I (setE σ a x) = e.eval I (setE σ a y) → x = y

/-- the other symbol with the sign the detection attributes to it -/
def signedSym (neg : Bool) (b : String) : Ex K := if neg then .un .neg (.sym b) else .sym b

/-- meaning of the observed answers `substitute(e, a, ±b).is_zero()` for the inspected expression `e` -/
def GzOk (I : Interp K) (E : Engine K) (i : Nat) (e : Ex K) : Prop :=
  ∀ a b s, E.gzero i a b s = true →
    (∀ σ, (e.subst [(a, signedSym s b)]).eval I σ = 0) ∧ InjIn I e a

theorem upd_single (I : Interp K) (σ : Env K) (a : String) (t : Ex K) :
    upd I σ [(a, t)] = setE σ a (t.eval I σ) := by
  funext n
  unfold upd setE
  by_cases h : n = a
  · subst h; simp [List.lookup]
  · have : (n == a) = false := by simpa using h
    simp [List.lookup, this, h]

theorem setE_self (σ : Env K) (a : String) : setE σ a (σ a) = σ := by
  funext n
  unfold setE
  split
  · rename_i h; rw [h]
  · rfl

theorem eraseDups_pair (a b d0 d1 : String) (h : [a, b].eraseDups = [d0, d1]) : a = d0 ∧ b = d1 := by
  rw [List.eraseDups_cons] at h
  by_cases hb : b = a
  · subst hb; simp at h
  · have hne : (b != a) = true := by simpa using hb
    have hne' : (!b == a) = true := by simpa using hb
    simp only [List.filter_cons, hne', if_true, List.filter_nil] at h
    rw [List.eraseDups_cons] at h
    simpa using h

theorem detectAlias_cases {E : Engine K} {cx : AliasCtx} {i : Nat} {e : Ex K} {d0 d1 : String} {neg : Bool}
    (h : detectAlias E cx i e = some (d0, d1, neg)) :
    (e = .bin .sub (.sym d0) (.sym d1) ∧ neg = false) ∨ (e = .bin .add (.sym d0) (.sym d1) ∧ neg = true) ∨
      E.gzero i d0 d1 neg = true := by
  have try2 : ∀ d : List String,
      (match d with
        | [a, b] => if E.gzero i a b false = true then some (a, b, false)
                    else if E.gzero i a b true = true then some (a, b, true) else none
        | _ => none) = some (d0, d1, neg) → E.gzero i d0 d1 neg = true := by
    intro d hr
    split at hr
    · rcases ite_some_cases hr with ⟨hz, hr⟩ | ⟨_, hr⟩
      · cases hr; exact hz
      · rcases ite_some_cases hr with ⟨hz, hr⟩ | ⟨_, hr⟩
        · cases hr; exact hz
        · cases hr
    · cases hr
  unfold detectAlias at h
  simp only at h
  split at h
  · rename_i r hfast
    cases h
    split at hfast
    · rename_i a0 b0 o x y hsv
      obtain ⟨rfl, rfl⟩ := eraseDups_pair x y a0 b0 hsv
      rcases ite_some_cases hfast with ⟨rfl, hr⟩ | ⟨_, hfast⟩
      · cases hr; exact .inl ⟨rfl, rfl⟩
      · rcases ite_some_cases hfast with ⟨rfl, hr⟩ | ⟨_, hr⟩
        · cases hr; exact .inr (.inl ⟨rfl, rfl⟩)
        · cases hr
    · cases hfast
  · split at h
    · rename_i r hr
      cases h
      exact .inr (.inr (try2 _ hr))
    · exact .inr (.inr (try2 _ h))

theorem detectAlias_eval_iff {I : Interp K} {E : Engine K} {cx : AliasCtx} {i : Nat} {e : Ex K} {σ : Env K}
    {d0 d1 : String} {neg : Bool} (hg : GzOk I E i e) (h : detectAlias E cx i e = some (d0, d1, neg)) :
    e.eval I σ = 0 ↔ σ d0 = if neg then - σ d1 else σ d1 := by
  rcases detectAlias_cases h with ⟨rfl, rfl⟩ | ⟨rfl, rfl⟩ | hz
  · exact AddCommGroup.sub_eq_zero_iff
  · exact add_eq_zero_iff
  · obtain ⟨h1, hinj⟩ := hg d0 d1 neg hz
    have h1 := h1 σ
    rw [eval_subst, upd_single] at h1
    have hv : (signedSym neg d1 : Ex K).eval I σ = if neg then - σ d1 else σ d1 := by cases neg <;> rfl
    rw [hv] at h1
    constructor
    · -- `e` vanishes at `σ` and at `σ` with `d0 ↦ ± d1`, and determines `d0`
      intro he
      exact hinj σ _ _ (by rw [setE_self, he, h1])
    · intro hd
      rwa [← hd, setE_self] at h1

/-- what is known when `_make_alias` calls `add(other, ±alg)`: it joins two classes that were not related,
    `alg` is algebraic and, when both symbols are, the one whose canonical variable is not protected (if any) -/
structure AddFacts (cx : AliasCtx) (ar ar' : AR) (d0 d1 : String) (neg : Bool) (alg other : String) : Prop where
  pair : (alg = d0 ∧ other = d1) ∨ (alg = d1 ∧ other = d0)
  alg_mem : alg ∈ cx.algs
  other_mem : other ∈ cx.allSt
  not_both : ¬((ar.canonicalSigned (false, alg)).1 ∈ cx.doNotEliminate ∧ (ar.canonicalSigned (false, other)).1 ∈ cx.doNotEliminate)
  swap : other ∈ cx.algs → (ar.canonicalSigned (false, alg)).1 ∉ cx.doNotEliminate ∨
           (ar.canonicalSigned (false, other)).1 ∈ cx.doNotEliminate
  unrel1 : (false, other) ∉ ar.aliases (false, alg)
  unrel2 : (false, other) ∉ ar.aliases (true, alg)
  add : ar.add (false, other) (neg, alg) = some ar'

theorem makeAlias_facts {cx : AliasCtx} {ar ar' : AR} {d0 d1 : String} {neg dropped : Bool}
    (h : makeAlias cx ar d0 d1 neg = some (ar', dropped)) :
    (ar' = ar ∧ dropped = false) ∨ (dropped = true ∧ ∃ alg other, AddFacts cx ar ar' d0 d1 neg alg other) := by
  revert h
  fun_cases makeAlias cx ar d0 d1 neg <;> intro h
  case case6 alg0 other0 hpick _ alg other hswap hall _ hnb hrel ar'' hadd =>
    cases h
    refine .inr ⟨rfl, alg, other, ?_⟩
    -- `alg0` is the first of `d0`, `d1` that is algebraic
    have hroles : (alg0 = d0 ∧ other0 = d1 ∧ d0 ∈ cx.algs) ∨ (alg0 = d1 ∧ other0 = d0 ∧ d0 ∉ cx.algs ∧ d1 ∈ cx.algs) := by
      rcases ite_some_cases hpick with ⟨h0, e⟩ | ⟨h0, hp⟩
      · cases e; exact .inl ⟨rfl, rfl, h0⟩
      · rcases ite_some_cases hp with ⟨h1, e⟩ | ⟨_, e⟩
        · cases e; exact .inr ⟨rfl, rfl, h0, h1⟩
        · cases e
    have hall := Decidable.not_not.1 hall
    have hrel1 := fun hx => hrel (.inl hx)
    have hrel2 := fun hx => hrel (.inr hx)
    -- the roles are swapped when both are algebraic and the canonical variable of `alg0` is protected
    split at hswap
    next hC =>
      cases hswap
      rcases hroles with ⟨rfl, rfl, _⟩ | ⟨_, _, h0, _⟩
      · exact ⟨.inr ⟨rfl, rfl⟩, hC.2.1, hall, hnb, fun _ => .inr hC.2.2, hrel1, hrel2, hadd⟩
      · exact absurd hC.1 h0
    next hC =>
      cases hswap
      rcases hroles with ⟨rfl, rfl, h0⟩ | ⟨rfl, rfl, h0, h1⟩
      · exact ⟨.inl ⟨rfl, rfl⟩, h0, hall, hnb, fun hd1 => .inl fun hc => hC ⟨h0, hd1, hc⟩, hrel1, hrel2, hadd⟩
      · exact ⟨.inr ⟨rfl, rfl⟩, h1, hall, hnb, fun hd0 => absurd hd0 h0, hrel1, hrel2, hadd⟩
  case case7 => cases h
  all_goals (cases h; exact .inl ⟨rfl, rfl⟩)

theorem makeAlias_kept {cx : AliasCtx} {ar ar' : AR} {d0 d1 : String} {neg : Bool}
    (h : makeAlias cx ar d0 d1 neg = some (ar', false)) : ar' = ar :=
  (makeAlias_facts h).elim (·.1) (nomatch ·.1)

theorem makeAlias_dropped {cx : AliasCtx} {ar ar' : AR} {d0 d1 : String} {neg : Bool}
    (h : makeAlias cx ar d0 d1 neg = some (ar', true)) : ∃ alg other, AddFacts cx ar ar' d0 d1 neg alg other :=
  (makeAlias_facts h).elim (nomatch ·.2) (·.2)

theorem makeAlias_aliasOk {cx : AliasCtx} {ar ar' : AR} {d0 d1 : String} {neg dropped : Bool} {σ : Env K}
    (h : makeAlias cx ar d0 d1 neg = some (ar', dropped)) (hok : AliasOk σ ar)
    (hd : σ d0 = if neg then - σ d1 else σ d1) : AliasOk σ ar' := by
  rcases makeAlias_facts h with ⟨rfl, _⟩ | ⟨_, alg, other, hf⟩
  · exact hok
  · refine add_aliasOk hok ?_ hf.add
    rcases hf.pair with ⟨rfl, rfl⟩ | ⟨rfl, rfl⟩ <;> cases neg <;>
      simp only [sval, Bool.false_eq_true, if_false, if_true] at hd ⊢
    · exact hd.symm
    · rw [hd, AddCommGroup.neg_neg]
    · exact hd
    · exact hd

theorem forall_getElem?_cons {α} {P : Nat → α → Prop} {i : Nat} {a : α} {as : List α}
    (h : ∀ k x, (a :: as)[k]? = some x → P (i + k) x) : P i a ∧ ∀ k x, as[k]? = some x → P (i + 1 + k) x :=
  ⟨h 0 a rfl, fun k x hx => Nat.add_right_comm i 1 k ▸ h (k + 1) x hx⟩

@[elab_as_elim]
theorem aliasLoop_induct {E : Engine K} {cx : AliasCtx}
    {motive : Nat → List (Ex K) → AR → List (Ex K) × AR → Prop}
    (nil : ∀ i ar, motive i [] ar ([], ar))
    (drop : ∀ i e es ar d0 d1 neg ar' r, detectAlias E cx i (E.view i e) = some (d0, d1, neg) →
      makeAlias cx ar d0 d1 neg = some (ar', true) → aliasLoop E cx (i + 1) es ar' = .ok r →
      motive (i + 1) es ar' r → motive i (e :: es) ar r)
    (keep : ∀ i e es ar r, aliasLoop E cx (i + 1) es ar = .ok r → motive (i + 1) es ar r →
      motive i (e :: es) ar (e :: r.1, r.2)) :
    ∀ i es ar r, aliasLoop E cx i es ar = .ok r → motive i es ar r := by
  intro i es ar
  fun_induction aliasLoop E cx i es ar <;> intro r h
  case case1 =>
    cases h
    exact nil _ _
  case case3 hdet ar' hmk ih => exact drop _ _ _ _ _ _ _ ar' r hdet hmk h (ih r h)
  case case5 ar' hmk r' hr' ih =>
    cases h
    obtain rfl := makeAlias_kept hmk
    exact keep _ _ _ _ r' hr' (ih r' hr')
  case case7 r' hr' ih =>
    cases h
    exact keep _ _ _ _ r' hr' (ih r' hr')
  all_goals cases h

theorem aliasLoop_sound {I : Interp K} {E : Engine K} (hE : EngineOk I E) {cx : AliasCtx} {σ : Env K}
    {es : List (Ex K)} {i : Nat} {ar : AR} {r : List (Ex K) × AR}
    (hg : ∀ k e, es[k]? = some e → GzOk I E (i + k) (E.view (i + k) e))
    (h : aliasLoop E cx i es ar = .ok r) (heq : EqOk I σ es) (hok : AliasOk σ ar) :
    EqOk I σ r.1 ∧ AliasOk σ r.2 := by
  refine aliasLoop_induct ?_ ?_ ?_ i es ar r h hg heq hok
  · exact fun _ _ _ _ hok => ⟨nofun, hok⟩
  · intro i e es ar d0 d1 neg ar' r hdet hmk _ ih hg heq hok
    have hg := forall_getElem?_cons (P := fun k e => GzOk I E k (E.view k e)) hg
    have heq := eqok_cons.1 heq
    have hd := (detectAlias_eval_iff (σ := σ) hg.1 hdet).1 (by rw [hE.view_eval]; exact heq.1)
    exact ih hg.2 heq.2 (makeAlias_aliasOk hmk hok hd)
  · intro i e es ar r _ ih hg heq hok
    have heq := eqok_cons.1 heq
    have ih := ih (forall_getElem?_cons (P := fun k e => GzOk I E k (E.view k e)) hg).2 heq.2 hok
    exact ⟨eqok_cons.2 ⟨heq.1, ih.1⟩, ih.2⟩

/-- the binding the elimination loop creates for the alias `a` of the canonical variable `c` -/
def aliasBinding (c : String) (a : SName) : String × Ex K := (a.2, if a.1 then Ex.un .neg (Ex.sym c) else Ex.sym c)

theorem aliasBinding_syms {c : String} {a : SName} {n : String} (h : n ∈ (aliasBinding (K := K) c a).2.syms) : n = c := by
  cases ha : a.1 <;> simpa [aliasBinding, ha, Ex.syms] using h

theorem elimClass_ok {c : String} {as : List SName} {S : List String} {r : List (String × Ex K) × List String} :
    elimClass c as S = .ok r →
    r.1 = as.map (aliasBinding c) ∧ (∀ n, n ∈ r.2 ↔ n ∈ S ∧ n ∉ as.map (·.2)) ∧ (as.map (·.2)).Nodup ∧ ∀ n ∈ as.map (·.2), n ∈ S := by
  fun_induction elimClass (K := K) c as S generalizing r <;> intro h
  case case1 => cases h; simp
  case case4 a as S hmem r' hr' ih =>
    cases h
    have hmem' : a.2 ∈ S := Decidable.not_not.1 hmem
    obtain ⟨i1, i2, i3, i4⟩ := ih hr'
    have hin : ∀ n ∈ as.map (·.2), n ∈ S ∧ n ≠ a.2 := fun n hn => by simpa using i4 n hn
    refine ⟨by rw [i1]; rfl, fun n => ?_, ?_, ?_⟩
    · rw [i2, List.mem_filter, List.map_cons, List.mem_cons, _root_.not_or, bne_iff_ne, and_assoc]
    · exact List.nodup_cons.2 ⟨fun hin' => (hin _ hin').2 rfl, i3⟩
    · intro n hn
      rcases List.mem_cons.1 hn with rfl | hn
      · exact hmem'
      · exact (hin n hn).1
  all_goals cases h

theorem elimAliases_ok {old ar : AR} {cs S : List String} {r : List (String × Ex K) × List String} :
    elimAliases old ar cs S = .ok r →
    r.1 = cs.flatMap (fun c => (newAliases old ar c).map (aliasBinding c)) ∧
    (∀ n, n ∈ r.2 ↔ n ∈ S ∧ n ∉ r.1.map (·.1)) ∧ (r.1.map (·.1)).Nodup ∧ (∀ n ∈ r.1.map (·.1), n ∈ S) ∧ ∀ c ∈ cs, c ∈ S := by
  fun_induction elimAliases (K := K) old ar cs S generalizing r <;> intro h
  case case1 => cases h; simp
  case case5 c cs S hc r1 hr1 r2 hr2 ih =>
    cases h
    obtain ⟨a1, a2, a3, a4⟩ := elimClass_ok hr1
    obtain ⟨b1, b2, b3, b4, b5⟩ := ih hr2
    have hk1 : r1.1.map (·.1) = (newAliases old ar c).map (·.2) := by
      rw [a1, List.map_map]; rfl
    refine ⟨by rw [List.flatMap_cons, ← a1, ← b1], fun n => ?_, ?_, ?_, ?_⟩
    · rw [b2, a2, List.map_append, List.mem_append, _root_.not_or, hk1, and_assoc]
    · rw [List.map_append, List.nodup_append]
      refine ⟨hk1 ▸ a3, b3, fun x hx y hy hxy => ?_⟩
      exact ((a2 y).1 (b4 y hy)).2 (hk1 ▸ hxy ▸ hx)
    · intro n hn
      rcases List.mem_append.1 (List.map_append ▸ hn) with hn | hn
      · exact a4 n (hk1 ▸ hn)
      · exact ((a2 n).1 (b4 n hn)).1
    · intro c' hc'
      rcases List.mem_cons.1 hc' with rfl | hc'
      · exact Decidable.not_not.1 hc
      · exact ((a2 c').1 (b5 c' hc')).1
  all_goals cases h

theorem newAliases_sub {old ar : AR} {c : String} {a : SName} (h : a ∈ newAliases old ar c) :
    a ∈ ar.aliases (false, c) :=
  List.mem_eraseDups.1 (List.mem_filter.1 (List.mem_filter.1 h).1).1

theorem elimAliases_holds {I : Interp K} {σ : Env K} {old ar : AR} (hok : AliasOk σ ar)
    {cs allSt : List String} {r : List (String × Ex K) × List String}
    (h : elimAliases old ar cs allSt = .ok r) : HoldsL I σ r.1 := by
  rw [(elimAliases_ok h).1]
  intro p hp
  obtain ⟨c, _, hp⟩ := List.mem_flatMap.1 hp
  obtain ⟨a, ha, rfl⟩ := List.mem_map.1 hp
  -- a recorded alias has the value of its canonical variable, up to its sign
  have := aliases_sval hok (newAliases_sub ha)
  obtain ⟨sg, n⟩ := a
  cases sg
  · exact this
  · exact (AddCommGroup.neg_eq_iff _ _).1 this

@[simp] theorem markAliased_name (ar : AR) (v : Var K) : (markAliased ar v).name = v.name := by
  unfold markAliased; split <;> rfl

@[simp] theorem markAliased_value (ar : AR) (v : Var K) : (markAliased ar v).value = v.value := by
  unfold markAliased; split <;> rfl

theorem valok_markAliased {I : Interp K} {σ : Env K} {vs : List (Var K)} {ar : AR} :
    ValOk I σ (vs.map (markAliased ar)) ↔ ValOk I σ vs := by
  unfold ValOk
  rw [List.forall_mem_map]
  simp only [markAliased_name, markAliased_value]

theorem mem_allSt {cx : AliasCtx} {n : String} :
    n ∈ cx.allSt ↔ n ∈ cx.states ∨ n ∈ cx.ders ∨ n ∈ cx.algs ∨ n ∈ cx.inputs ∨ n ∈ cx.params ∨ n ∈ cx.consts := by
  simp only [AliasCtx.allSt, List.mem_append, _root_.or_assoc]

theorem mem_doNotEliminate {cx : AliasCtx} {n : String} :
    n ∈ cx.doNotEliminate ↔ n ∈ cx.ders ∨ n ∈ cx.states ∨ n ∈ cx.inputs ∨ n ∈ cx.params ∨ n ∈ cx.consts := by
  simp only [AliasCtx.doNotEliminate, List.mem_append, _root_.or_assoc]

theorem names_markAliased (ar : AR) (vs : List (Var K)) : names (vs.map (markAliased ar)) = names vs := by
  simp [names, Function.comp_def]

/-- the context `detect_aliases` builds from the model it receives -/
def Model.aliasCtx (m : Model K) (allowDer : Bool) : AliasCtx :=
  ⟨names m.states, names m.ders, names m.algs, names m.inputs, names m.params, names m.consts, allowDer⟩

theorem detectAliases_ok {E : Engine K} {allowDer : Bool} {m m' : Model K}
    (h : detectAliases E allowDer m = .ok m') :
    ∃ kept ar l left, aliasLoop E (m.aliasCtx allowDer) 0 m.eqs m.ar = .ok (kept, ar) ∧
      elimAliases (K := K) m.ar ar ar.cv (m.aliasCtx allowDer).allSt = .ok (l, left) ∧
      m' = { m with
        states := (m.states.filter fun v => left.contains v.name).map (markAliased ar),
        ders := (m.ders.filter fun v => left.contains v.name).map (markAliased ar),
        algs := (m.algs.filter fun v => left.contains v.name).map (markAliased ar),
        inputs := (m.inputs.filter fun v => left.contains v.name).map (markAliased ar),
        params := (m.params.filter fun v => left.contains v.name).map (markAliased ar),
        consts := m.consts.map (markAliased ar),
        eqs := kept.map (E.sub l), inits := m.inits.map (E.sub l),
        delays := substDelays E l m.delays, ar := ar } := by
  revert h
  fun_cases detectAliases E allowDer m <;> intro h
  case case3 kept ar hloop l left hel _ =>
    cases h
    exact ⟨kept, ar, l, left, hloop, hel, rfl⟩
  all_goals cases h

theorem alias_sound {I : Interp K} {E : Engine K} (hE : EngineOk I E) {σ : Env K} {allowDer : Bool} {m m' : Model K}
    (hg : ∀ k e, m.eqs[k]? = some e → GzOk I E k (E.view k e))
    (h : detectAliases E allowDer m = .ok m') (hs : Sat I σ m) : Sat I σ m' := by
  obtain ⟨kept, ar, l, left, hloop, hel, rfl⟩ := detectAliases_ok h
  have hl := aliasLoop_sound hE (i := 0) (fun k e he => (Nat.zero_add k).symm ▸ hg k e he) hloop hs.eqs hs.alias
  have hh : HoldsL I σ l := elimAliases_holds hl.2 hel
  exact ⟨(eqok_sub hE hh).2 hl.1, valok_markAliased.2 (valok_filter _ hs.params),
    valok_markAliased.2 hs.consts, hl.2⟩

end PymocaVerif.Simplify
