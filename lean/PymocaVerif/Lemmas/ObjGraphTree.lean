import PymocaVerif.Lemmas.ObjGraphCopy
/-!
When every memo entry maps an object of a tree to its finished copy, the copies form a tree
(`copies_region`, `copies_treeShaped`, `copies_noScope`).  So the copy of a whole tree (an object
without parent: nothing is seeded) is a tree again, disjoint from everything that existed, and
everything proved about copying a tree applies to copying the copy (`tree_copy`).  Edits confined
to one region do not change any view of a disjoint region (`edit_frame`).
-/
namespace PymocaVerif.ObjGraph

/-- the objects made by this `deepcopy` -/
def Copies (st' : St) (b : Nat) : Prop := ∃ a, mget st'.memo a = some b

section image
variable {H : Heap} {R : Nat → Prop} {st' : St}
  (hcp : ∀ a b, mget st'.memo a = some b → R a ∧ Done H st' a b)
include hcp

theorem copies_get {a b : Nat} {ob : Obj} (hab : mget st'.memo a = some b) (hob : st'.heap[b]? = some ob) :
    ∃ o, R a ∧ H[a]? = some o ∧ ob.kind = o.kind ∧ ob.hook = none ∧
      renFields st'.memo o.fields = some ob.fields := by
  obtain ⟨ha, o, fs, ho, hren, hb⟩ := hcp a b hab
  obtain rfl := Option.some.inj (hb.symm.trans hob)
  exact ⟨o, ha, ho, rfl, rfl, hren⟩

theorem copies_region (hR : Region H R) (hns : NoScope H R) : Region st'.heap (Copies st') := by
  refine { valid := ?_, hooks := ?_, closed := ?_, parU := ?_ }
  · rintro b ⟨a, hab⟩
    obtain ⟨_, o, fs, _, _, hb⟩ := hcp a b hab
    exact ⟨_, hb⟩
  · rintro b ob ⟨a, hab⟩ hob
    obtain ⟨o, _, _, _, hh, _⟩ := copies_get hcp hab hob
    exact hh
  · rintro b ob g ⟨a, hab⟩ hob hg
    obtain ⟨o, ha, ho, _, _, hren⟩ := copies_get hcp hab hob
    cases g with
    | own c =>
      obtain ⟨i, _, hm⟩ := renFields_mem_inv hren hg
      exact ⟨i, hm⟩
    | par p =>
      obtain ⟨i, _, hm⟩ := renFields_mem_inv hren hg
      exact ⟨i, hm⟩
    | scp i => exact absurd (renFields_mem_inv hren hg) (hns a o i ha ho)
  · rintro b ob p ⟨a, hab⟩ hob hp
    obtain ⟨o, ha, ho, hk, _, hren⟩ := copies_get hcp hab hob
    obtain ⟨i, hf, hm⟩ := renFields_mem_inv hren hp
    obtain ⟨hk', hp'⟩ := hR.parU a o i ha ho hf
    exact ⟨hk.trans hk', by rw [parentOf_ren hren, hp']; exact hm⟩

theorem copies_treeShaped (hts : TreeShaped H R) : TreeShaped st'.heap (Copies st') := by
  rintro b c ob oc ⟨a, hab⟩ hob hc hoc hk
  obtain ⟨o, ha, ho, _, _, hren⟩ := copies_get hcp hab hob
  -- `c` is the copy of a class `i` below `a`, whose parent is `a`, which was copied to `b`
  obtain ⟨i, hf, hm⟩ := renFields_mem_inv hren hc
  obtain ⟨oi, _, hoi, hki, _, hreni⟩ := copies_get hcp hm hoc
  rw [parentOf_ren hreni, hts a i o oi ha ho hf hoi (hki.symm.trans hk)]
  exact hab

theorem copies_noScope (hns : NoScope H R) : NoScope st'.heap (Copies st') := by
  rintro b ob i ⟨a, hab⟩ hob hi
  obtain ⟨o, ha, ho, _, _, hren⟩ := copies_get hcp hab hob
  exact hns a o i ha ho (renFields_mem_inv hren hi)

end image

/-- `CopyOut` when `x` is the root of a tree (no parent, so no entry is a seed): the copies meet, with
    root `y`, everything `tree_copy` assumes of `R` and `x`, so they can be copied in turn. -/
structure TreeCopy (H : Heap) (R : Nat → Prop) (x : Nat) (st' : St) (y : Nat) : Prop where
  out : CopyOut H R x st' y
  fresh : ∀ a b, mget st'.memo a = some b → H.length ≤ b ∧ Done H st' a b
  region : Region st'.heap (Copies st')
  tree : TreeShaped st'.heap (Copies st')
  noScope : NoScope st'.heap (Copies st')
  root : Copies st' y
  rootParent : ∀ o, st'.heap[y]? = some o → parentOfFields o.fields = none

theorem tree_copy {H : Heap} {R : Nat → Prop} (hR : Region H R) (hts : TreeShaped H R) (hns : NoScope H R)
    {cfg : Cfg} (hg : cfg.Good) {x y : Nat} {st' : St} (hx : R x)
    (hroot : ∀ o, H[x]? = some o → parentOfFields o.fields = none)
    (h : deepcopySt cfg H x = some (st', y)) : TreeCopy H R x st' y := by
  have out := deepcopySt_spec hR hg hx h
  -- no entry is a seed: the only seed would be the parent of `x`
  have fresh : ∀ a b, mget st'.memo a = some b → H.length ≤ b ∧ Done H st' a b := by
    intro a b hab
    refine (out.entries a b hab).resolve_left fun hba => ?_
    subst hba
    obtain ⟨o, ho, _, hp⟩ := out.seeds hts b hab
    rw [hroot o ho] at hp
    cases hp
  have hcp : ∀ a b, mget st'.memo a = some b → R a ∧ Done H st' a b :=
    fun a b hab => ⟨(out.dom a b hab).1, (fresh a b hab).2⟩
  refine { out, fresh, region := copies_region hcp hR hns, tree := copies_treeShaped hcp hts,
           noScope := copies_noScope hcp hns, root := ⟨x, out.res⟩, rootParent := fun oy hoy => ?_ }
  obtain ⟨o, _, ho, _, _, hren⟩ := copies_get hcp out.res hoy
  rw [parentOf_ren hren, hroot o ho]
  rfl

/-- reachability through every kind of reference -/
inductive Reach (h : Heap) : Nat → Nat → Prop
  | refl (a : Nat) : Reach h a a
  | step {a b : Nat} {o : Obj} {f : Field} : Reach h a b → h[b]? = some o → f ∈ o.fields → Reach h a f.id

theorem reach_region {H : Heap} {R : Nat → Prop} (hR : Region H R) {x : Nat} (hx : R x) :
    ∀ i, Reach H x i → R i := by
  intro i hi
  induction hi with
  | refl => exact hx
  | step _ ho hf ih => exact hR.closed _ _ _ ih ho hf

/-- an edit writes only to objects of `R` or to objects it has just allocated -/
def Confined (H : Heap) (R : Nat → Prop) (e : Edit) : Prop := ∀ w ∈ e.writes, R w.1 ∨ H.length ≤ w.1

theorem applyWrites_get {ws : List (Nat × Obj)} {h : Heap} {a : Nat} (hne : ∀ w ∈ ws, w.1 ≠ a) :
    (applyWrites h ws)[a]? = h[a]? := by
  fun_induction applyWrites h ws with
  | case1 => rfl
  | case2 h i o r ih =>
    rw [ih fun w hw => hne w (List.mem_cons_of_mem _ hw),
      List.getElem?_set_ne (hne (i, o) List.mem_cons_self)]

theorem edit_frame {H : Heap} {R1 R2 : Nat → Prop} (hR2 : Region H R2) (hdis : ∀ a, R1 a → R2 a → False)
    {e : Edit} (hc : Confined H R1 e) : AgreeOn R2 H (applyEdit H e) := by
  intro a ha
  rw [applyEdit, applyWrites_get ?_, List.getElem?_append_left (hR2.lt ha)]
  intro w hw hwa
  rcases hc w hw with h1 | h1
  · exact hdis a (hwa ▸ h1) ha
  · exact absurd (hR2.lt ha) (Nat.not_lt.mpr (hwa ▸ h1))

theorem addClassEdit_writes {h : Heap} {holder c : Nat} :
    ∀ w ∈ (addClassEdit h holder c).writes, w.1 = holder ∨ w.1 = c := by
  intro w hw
  unfold addClassEdit at hw
  split at hw
  · rcases List.mem_cons.mp hw with rfl | hw
    · exact Or.inl rfl
    · rcases List.mem_cons.mp hw with rfl | hw
      · exact Or.inr rfl
      · cases hw
  · cases hw

/-- `add_class` on a holder and a class outside a region leaves the region as it was, whatever
    parent the class still names -/
theorem addClassEdit_frame {H : Heap} {R : Nat → Prop} (hR : Region H R) {holder c : Nat}
    (hh : ¬ R holder) (hc : ¬ R c) : AgreeOn R H (applyEdit H (addClassEdit H holder c)) :=
  edit_frame (R1 := fun i => ¬ R i) hR (fun _ h1 h2 => h1 h2) fun w hw => by
    rcases addClassEdit_writes w hw with e | e
    · rw [e]
      exact Or.inl hh
    · rw [e]
      exact Or.inl hc

theorem removeClassEdit_writes {h : Heap} {holder : Nat} {n : String} {registered : Bool} :
    ∀ w ∈ (removeClassEdit h holder n registered).writes,
      w.1 = holder ∨ ∃ oh, h[holder]? = some oh ∧ Field.own w.1 ∈ oh.fields := by
  intro w hw
  unfold removeClassEdit at hw
  split at hw
  · cases hw
  · rename_i oh ho
    rcases List.mem_cons.mp hw with rfl | hw
    · exact Or.inl rfl
    · split at hw
      · obtain ⟨c, hc, hw⟩ := List.mem_filterMap.mp hw
        split at hw
        · cases hw
          exact Or.inr ⟨oh, ho, ownIds_mem_iff.mp (List.mem_filter.mp hc).1⟩
        · cases hw
      · cases hw

/-- what tree 1 consists of after an edit: what it was, plus what the edit allocated -/
def grow (H : Heap) (R : Nat → Prop) (e : Edit) : Nat → Prop :=
  fun a => R a ∨ (H.length ≤ a ∧ a < H.length + e.allocs.length)

theorem grow_disjoint {H : Heap} {R1 R2 : Nat → Prop} (hR2 : Region H R2) (hdis : ∀ a, R1 a → R2 a → False)
    (e : Edit) : ∀ a, grow H R1 e a → R2 a → False
  | a, .inl h1, h2 => hdis a h1 h2
  | _, .inr ⟨h1, _⟩, h2 => absurd (hR2.lt h2) (Nat.not_lt.mpr h1)

end PymocaVerif.ObjGraph
