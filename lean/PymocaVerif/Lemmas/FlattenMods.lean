import PymocaVerif.Lemmas.Flatten
/-! Modification environments: their order by scope depth, the origin of every binding, and the
    attributes `finVar` reads off them. -/
namespace PymocaVerif.Flatten

variable {f : Nat} {lib : Lib} {c P : Path} {outer : List MMod} {dims : List Nat} {r : List Var × List IEq}

/-- later entries are written at the same or an outer (shorter) scope -/
def ScopeSorted (l : List MMod) : Prop := l.Pairwise fun a b => b.scope.length ≤ a.scope.length

theorem MMod.strip_some {n : Name} {m m' : MMod} (h : MMod.strip n m = some m') :
    m.scope = m'.scope ∧ m.value = m'.value ∧ m.path = n :: m'.path := by
  revert h
  fun_cases MMod.strip n m <;> intro h <;> cases h
  exact ⟨rfl, rfl, ‹_›⟩

theorem MMod.strip_scope {n : Name} {m m' : MMod} (h : MMod.strip n m = some m') : m.scope = m'.scope :=
  (MMod.strip_some h).1

theorem Mod.strip_some {n : Name} {m m' : Mod} (h : Mod.strip n m = some m') :
    m.value = m'.value ∧ m.path = n :: m'.path := by
  revert h
  fun_cases Mod.strip n m <;> intro h <;> cases h
  exact ⟨rfl, ‹_›⟩

theorem Mod.scope_of_mem_map_here {l : List Mod} {m : MMod} (h : m ∈ l.map (Mod.here P)) : m.scope = P := by
  obtain ⟨x, _, rfl⟩ := List.mem_map.mp h
  rfl

/-- What an instance at `P` is handed by the enclosing levels: ordered by scope depth, nothing
    written deeper than `P`. -/
def SortedBelow (P : Path) (l : List MMod) : Prop := ScopeSorted l ∧ ∀ m ∈ l, m.scope.length ≤ P.length

theorem SortedBelow.local_append {loc rest : List MMod} (hloc : ∀ m ∈ loc, m.scope = P)
    (h : SortedBelow P rest) : SortedBelow P (loc ++ rest) := by
  refine ⟨List.pairwise_append.mpr ⟨List.pairwise_of_forall_mem_list fun a ha b hb => ?_, h.1,
    fun a ha b hb => ?_⟩, fun m hm => ?_⟩
  · rw [hloc a ha, hloc b hb]
    exact Nat.le_refl _
  · rw [hloc a ha]
    exact h.2 b hb
  · rcases List.mem_append.mp hm with hm | hm
    · rw [hloc m hm]
      exact Nat.le_refl _
    · exact h.2 m hm

theorem SortedBelow.strip {l : List MMod} (h : SortedBelow P l) (n : Name) :
    SortedBelow P (l.filterMap (MMod.strip n)) := by
  refine ⟨List.Pairwise.filterMap _ (fun a a' haa' b hb b' hb' => ?_) h.1, fun m hm => ?_⟩
  · rw [← MMod.strip_scope hb, ← MMod.strip_scope hb']
    exact haa'
  · obtain ⟨mo, hmo, hs⟩ := List.mem_filterMap.mp hm
    rw [← MMod.strip_scope hs]
    exact h.2 mo hmo

theorem SortedBelow.mono {l : List MMod} (h : SortedBelow P l) (q : Path) : SortedBelow (P ++ q) l :=
  ⟨h.1, fun m hm => Nat.le_trans (h.2 m hm) (by simp)⟩

theorem mem_allMods {k : Comp} {ext : List (List Mod)} {m : MMod}
    (h : m ∈ allMods P k ext outer) :
    (m.scope = P ∧ ∃ x ∈ k.mods, x.value = m.value ∧ x.path = m.path) ∨
    (m.scope = P ∧ ∃ l ∈ ext, ∃ x ∈ l, x.value = m.value ∧ x.path = k.name :: m.path) ∨
    (∃ mo ∈ outer, mo.scope = m.scope ∧ mo.value = m.value ∧ mo.path = k.name :: m.path) := by
  unfold allMods at h
  rcases List.mem_append.mp h with h | h
  · rcases List.mem_append.mp h with h | h
    · obtain ⟨x, hx, rfl⟩ := List.mem_map.mp h
      exact .inl ⟨rfl, x, hx, rfl, rfl⟩
    · obtain ⟨x', hx', rfl⟩ := List.mem_map.mp h
      obtain ⟨x, hx, hs⟩ := List.mem_filterMap.mp hx'
      obtain ⟨l, hl, hxl⟩ := List.mem_flatten.mp hx
      exact .inr (.inl ⟨rfl, l, hl, x, hxl, Mod.strip_some hs⟩)
  · obtain ⟨mo, hmo, hs⟩ := List.mem_filterMap.mp h
    exact .inr (.inr ⟨mo, hmo, MMod.strip_some hs⟩)

theorem allMods_sorted {k : Comp} {ext : List (List Mod)} (h : SortedBelow P outer) :
    SortedBelow P (allMods P k ext outer) := by
  rw [allMods, ← List.map_append]
  exact .local_append (fun _ => Mod.scope_of_mem_map_here) (h.strip k.name)

theorem InstVar.binds_sorted {v : Var} (h : InstVar lib c P outer dims v) (hs : SortedBelow P outer) :
    ScopeSorted v.binds := by
  induction h with
  | leaf => exact (SortedBelow.local_append (fun _ => Mod.scope_of_mem_map_here) (allMods_sorted hs)).1
  | sub _ _ _ _ _ ih => exact ih ((allMods_sorted hs).mono _)

theorem lookupBind_some {binds : List MMod} {a : Path} {m : MMod} (h : lookupBind binds a = some m) :
    m.path = a ∧ ∃ l1 l2, binds = l1 ++ m :: l2 ∧ ∀ x ∈ l2, x.path ≠ a := by
  unfold lookupBind at h
  obtain ⟨hp, as, bs, hl, hno⟩ := List.find?_eq_some_iff_append.mp h
  refine ⟨by simpa using hp, bs.reverse, as.reverse, ?_, ?_⟩
  · have := congrArg List.reverse hl
    simpa using this
  · intro x hx
    have := hno x (List.mem_reverse.mp hx)
    simpa using this

theorem lookupBind_append (l1 l2 : List MMod) (a : Path) :
    lookupBind (l1 ++ l2) a = (lookupBind l2 a).or (lookupBind l1 a) := by
  unfold lookupBind
  rw [List.reverse_append, List.find?_append]

/-- in a list ordered by scope depth the winner is written at least as far out as any other entry
    for the same path: what comes before it is deeper, what comes after it has another path -/
theorem lookupBind_outermost {binds : List MMod} (hs : ScopeSorted binds) {a : Path} {w : MMod}
    (hw : lookupBind binds a = some w) :
    w ∈ binds ∧ w.path = a ∧ ∀ m' ∈ binds, m'.path = a → w.scope.length ≤ m'.scope.length := by
  obtain ⟨hpath, l1, l2, rfl, hno⟩ := lookupBind_some hw
  refine ⟨List.mem_append_right _ (.head _), hpath, fun m' hm' hpa => ?_⟩
  rcases List.mem_append.mp hm' with hm' | hm'
  · exact (List.pairwise_append.mp hs).2.2 m' hm' w (.head _)
  · cases hm' with
    | head => exact Nat.le_refl _
    | tail _ hm'' => exact absurd hpa (hno m' hm'')

theorem InstAt.snoc {t P c c' : Path} {k : Comp} (h : InstAt lib t P c) (hk : MemberOf lib c k)
    (hty : k.ty = .cls c') (hne : ∀ b, ¬ IsElem lib k.ty b) : InstAt lib t (P ++ [k.name]) c' := by
  induction h with
  | here c => exact .sub hk hty hne (.here c')
  | sub hm hc hn _ ih => exact .sub hm hc hn (ih hk)

/-- `Origin lib t p m`: the modification `m` is written — as a declaration modification, in an
    extends clause, or in a type definition (a literal) — in the class instantiated at `m.scope`
    below the root class `t`, and that scope is a prefix of the instance path `p`. -/
def Origin (lib : Lib) (t p : Path) (m : MMod) : Prop :=
  ∃ c q, p = m.scope ++ q ∧ InstAt lib t m.scope c ∧ (WrittenIn lib c m.value ∨ m.value.isLiteral = true)

theorem Origin.mono {t p : Path} {m : MMod} (h : Origin lib t p m) (q : Path) :
    Origin lib t (p ++ q) m := by
  obtain ⟨c, q0, hp, hi, hw⟩ := h
  exact ⟨c, q0 ++ q, by rw [hp, List.append_assoc], hi, hw⟩

theorem allMods_origin {t c P : Path} {k : Member} (hP : InstAt lib t P c)
    (hmem : MemberOf lib c k.comp) (hext : ∀ l ∈ k.ext, ExtClauseOf lib c l)
    (ho : ∀ mo ∈ outer, Origin lib t P mo) : ∀ x ∈ allMods P k.comp k.ext outer, Origin lib t P x := by
  intro x hx
  rcases mem_allMods hx with ⟨hsc, y, hy, hyv, _⟩ | ⟨hsc, l, hl, y, hy, hyv, _⟩ | ⟨mo, hmo, h1, h2, _⟩
  · exact ⟨c, [], by rw [hsc, List.append_nil], by rw [hsc]; exact hP, .inl (.inl ⟨k.comp, y, hmem, hy, hyv⟩)⟩
  · exact ⟨c, [], by rw [hsc, List.append_nil], by rw [hsc]; exact hP, .inl (.inr ⟨l, y, hext l hl, hy, hyv⟩)⟩
  · obtain ⟨c0, q0, hq, hi, hw⟩ := ho mo hmo
    exact ⟨c0, q0, h1 ▸ hq, h1 ▸ hi, h2 ▸ hw⟩

theorem InstVar.binds_origin {t c P : Path} {v : Var}
    (h : InstVar lib c P outer dims v) (hP : InstAt lib t P c) (ho : ∀ mo ∈ outer, Origin lib t P mo)
    {m : MMod} (hm : m ∈ v.binds) :
    ∃ c0 q', q' ≠ [] ∧ v.path = m.scope ++ q' ∧ InstAt lib t m.scope c0 ∧
      (WrittenIn lib c0 m.value ∨ m.value.isLiteral = true) := by
  induction h with
  | @leaf c P _ _ mem _ _ hmem hext _ hlit =>
    have horig : Origin lib t P m := by
      rcases List.mem_append.mp hm with hm | hm
      · obtain ⟨x, hx, rfl⟩ := List.mem_map.mp hm
        exact ⟨c, [], (List.append_nil _).symm, hP, .inr (hlit x hx)⟩
      · exact allMods_origin hP hmem hext ho m hm
    obtain ⟨c0, q0, hq0, hi, hw⟩ := horig
    refine ⟨c0, q0 ++ [mem.comp.name], by simp, ?_, hi, hw⟩
    rw [← List.append_assoc, ← hq0]
    rfl
  | sub hmem hext hc hne _ ih =>
    exact ih (hP.snoc hmem hc hne) (fun x hx => (allMods_origin hP hmem hext ho x hx).mono _) hm

theorem finVar_attr {names : List Path} {v : Var} {a : String} {e : FExpr} :
    (a, e) ∈ (finVar names v).attrs ↔
      a ∈ attrNames ∧ ∃ w, lookupBind v.binds [a] = some w ∧ e = rename names w.scope w.value := by
  simp only [finVar, List.mem_filterMap, Var.attr, Option.map_eq_some_iff, Prod.mk.injEq]
  constructor
  · rintro ⟨_, ha, _, ⟨w, hw, rfl⟩, rfl, rfl⟩
    exact ⟨ha, w, hw, rfl⟩
  · rintro ⟨ha, w, hw, rfl⟩
    exact ⟨a, ha, _, ⟨w, hw, rfl⟩, rfl, rfl⟩

end PymocaVerif.Flatten
