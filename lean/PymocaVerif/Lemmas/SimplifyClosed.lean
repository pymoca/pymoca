import PymocaVerif.Lemmas.SimplifyElim
/-!
# Simplify: the simplified model is self-contained (C15, `closed_residual`)

The substituting passes.  `detect_aliases` is treated whole in `SimplifyAliasPass` (`alias_closed`).
-/
set_option linter.unusedSectionVars false
namespace PymocaVerif.Simplify
open PymocaVerif.AliasRel Lean.Grind

variable {K : Type} [Field K] [DecidableEq K]

/-- no equation, initial equation or delay argument mentions a symbol that is in no variable list -/
def Closed (m : Model K) : Prop := ∀ e ∈ m.exprs, ∀ n ∈ e.syms, n ∈ m.known

theorem dangling_nil_iff (m : Model K) : m.dangling = [] ↔ Closed m := by
  unfold Model.dangling Closed
  rw [List.filter_eq_nil_iff]
  constructor
  · intro h e he n hn
    have := h n (List.mem_eraseDups.2 (List.mem_flatMap.2 ⟨e, he, hn⟩))
    simpa using this
  · intro h n hn
    obtain ⟨e, he, hne⟩ := List.mem_flatMap.1 (List.mem_eraseDups.1 hn)
    simpa using h e he n hne

theorem syms_subst (l : List (String × Ex K)) (e : Ex K) (n : String) (h : n ∈ (e.subst l).syms) :
    (n ∈ e.syms ∧ n ∉ l.map (·.1)) ∨ ∃ p ∈ l, n ∈ p.2.syms := by
  induction e with
  | sym k =>
    simp only [Ex.subst] at h
    cases hk : l.lookup k with
    | none =>
      rw [hk] at h
      obtain rfl := List.mem_singleton.1 h
      exact .inl ⟨h, fun hin => by
        obtain ⟨p, hp, hpn⟩ := List.mem_map.1 hin
        simpa [hpn] using List.lookup_eq_none_iff.1 hk p hp⟩
    | some t => rw [hk] at h; exact .inr ⟨(k, t), lookup_mem hk, h⟩
  | const c => cases h
  | un o a ih => exact ih h
  | bin o a b iha ihb =>
    simp only [Ex.subst, Ex.syms, List.mem_append] at h ⊢
    exact h.elim (fun h => (iha h).imp_left fun ⟨h1, h2⟩ => ⟨.inl h1, h2⟩)
      fun h => (ihb h).imp_left fun ⟨h1, h2⟩ => ⟨.inr h1, h2⟩

/-- the exprs of a model after substituting everywhere -/
def mapExprs (f : Ex K → Ex K) (m : Model K) : Model K :=
  { m with eqs := m.eqs.map f, inits := m.inits.map f, delays := m.delays.map fun d => (f d.1, f d.2) }

theorem mapExprs_exprs (f : Ex K → Ex K) (m : Model K) : (mapExprs f m).exprs = m.exprs.map f := by
  simp [mapExprs, Model.exprs, List.map_append, Function.comp_def]

theorem closed_sub {I : Interp K} {E : Engine K} (hE : EngineOk I E) {m : Model K} {l : List (String × Ex K)}
    {known' : List String} (hc : Closed m)
    (hkeep : ∀ n ∈ m.known, n ∉ l.map (·.1) → n ∈ known')
    (hvals : ∀ p ∈ l, ∀ n ∈ p.2.syms, n ∈ known') :
    ∀ e ∈ m.exprs.map (E.sub l), ∀ n ∈ e.syms, n ∈ known' := by
  intro e he n hn
  obtain ⟨e0, he0, rfl⟩ := List.mem_map.1 he
  have hn' := hE.norm_syms _ _ hn
  rcases syms_subst l e0 n hn' with ⟨h1, h2⟩ | ⟨p, hp, h3⟩
  · exact hkeep n (hc e0 he0 n h1) h2
  · exact hvals p hp n h3

theorem mem_known {m : Model K} {n : String} : n ∈ m.known ↔ n = "time" ∨ n ∈ names m.states ∨ n ∈ names m.ders ∨
    n ∈ names m.algs ∨ n ∈ names m.inputs ∨ n ∈ names m.params ∨ n ∈ names m.consts := by
  simp only [Model.known, List.mem_cons, List.mem_append, _root_.or_assoc]

theorem known_mono {m m' : Model K} {n : String} (h : n ∈ m.known)
    (hs : n ∈ names m.states → n ∈ names m'.states) (hd : n ∈ names m.ders → n ∈ names m'.ders)
    (ha : n ∈ names m.algs → n ∈ names m'.algs) (hi : n ∈ names m.inputs → n ∈ names m'.inputs)
    (hp : n ∈ names m.params → n ∈ names m'.params) (hc : n ∈ names m.consts → n ∈ names m'.consts) :
    n ∈ m'.known := by
  rw [mem_known] at h ⊢
  exact h.imp_right (Or.imp hs (Or.imp hd (Or.imp ha (Or.imp hi (Or.imp hp hc)))))

theorem Closed.mono {m m' : Model K} (hc : Closed m) (he : ∀ e ∈ m'.exprs, e ∈ m.exprs)
    (hk : ∀ n ∈ m.known, n ∈ m'.known) : Closed m' :=
  fun e he' n hn => hk n (hc e (he e he') n hn)

theorem names_mapValue (f : Ex K → Ex K) (vs : List (Var K)) : names (vs.map (Var.mapValue f)) = names vs := by
  simp [names, Var.mapValue, Function.comp_def]

theorem substMeta_known (E : Engine K) (l : List (String × Ex K)) (m : Model K) :
    (substMeta E l m).known = m.known ∧ (substMeta E l m).exprs = m.exprs := by
  simp [substMeta, Model.known, Model.exprs, names_mapValue]

theorem substDelays_eq (E : Engine K) (l : List (String × Ex K)) (ds : List (Ex K × Ex K)) :
    substDelays E l ds = ds.map fun d => (E.sub l d.1, E.sub l d.2) := rfl

theorem closed_substEverywhere {I : Interp K} {E : Engine K} (hE : EngineOk I E) {m m₀ : Model K}
    {l : List (String × Ex K)} (hc : Closed m) (hex : m₀.exprs = m.exprs)
    (hkeep : ∀ n ∈ m.known, n ∉ l.map (·.1) → n ∈ m₀.known)
    (hvals : ∀ p ∈ l, ∀ n ∈ p.2.syms, n ∈ m₀.known) : Closed (substEverywhere E l m₀) := by
  have hex' : (substEverywhere E l m₀).exprs = m.exprs.map (E.sub l) := by
    rw [← hex]
    simp [substEverywhere, substMeta, Model.exprs, substDelays_eq, List.map_append, Function.comp_def]
  have hkn : (substEverywhere E l m₀).known = m₀.known := (substMeta_known E l _).1
  unfold Closed
  rw [hex', hkn]
  exact closed_sub hE hc hkeep hvals

theorem resolveLoop_closed (E : Engine K) (fuel : Nat) (cur : List String) (m : Model K) :
    Closed m → Closed (resolveLoop E fuel cur m) := by
  fun_induction resolveLoop E fuel cur m <;> intro h
  case case1 => exact h
  case case2 => exact h
  case case3 fuel cur m ready _ _ ih =>
    apply ih
    have := substMeta_known E ready m
    unfold Closed
    rw [this.1, this.2]
    exact h

theorem factor_syms (e : Ex K) (n : String) : n ∈ (factor e).syms → n ∈ e.syms := by
  fun_induction factor e
  case case1 ih | case2 ih | case3 ih => exact ih
  case case4 ih | case7 ih => exact fun h => List.mem_append_left _ (ih h)
  case case5 ih => exact fun h => List.mem_append_right _ (ih h)
  all_goals exact id

theorem factor_closed (m : Model K) (h : Closed m) : Closed (factorAndSimplify m) := by
  intro e he n hn
  simp only [factorAndSimplify, Model.exprs, List.mem_append] at he
  rcases he with ((he | he) | he) | he
  · obtain ⟨e0, he0, rfl⟩ := List.mem_map.1 he
    exact h e0 (List.mem_append_left _ (List.mem_append_left _ (List.mem_append_left _ he0))) n (factor_syms e0 n hn)
  · exact h e (List.mem_append_left _ (List.mem_append_left _ (List.mem_append_right _ he))) n hn
  · exact h e (List.mem_append_left _ (List.mem_append_right _ he)) n hn
  · exact h e (List.mem_append_right _ he) n hn

theorem constLoop_sub (es : List (Ex K)) (algs : List (Var K)) :
    (∀ e ∈ (constLoop es algs).1, e ∈ es) ∧
    (∀ v ∈ algs, v.name ∈ names (constLoop es algs).2.2 ∨ v.name ∈ names (constLoop es algs).2.1) := by
  fun_induction constLoop es algs
  case case1 => exact ⟨nofun, fun v hv => .inl (List.mem_map_of_mem hv)⟩
  case case2 e es algs n c h r vs ih =>
    refine ⟨fun x hx => List.mem_cons_of_mem _ (ih.1 x hx), fun v hv => ?_⟩
    show v.name ∈ names r.2.2 ∨ v.name ∈ names (vs ++ r.2.1)
    simp only [vs, names, List.map_append, List.mem_append, List.map_map]
    by_cases hvn : v.name = n
    · exact .inr (.inl (List.mem_map.2 ⟨v, List.mem_filter.2 ⟨hv, beq_iff_eq.2 hvn⟩, rfl⟩))
    · exact (ih.2 v (List.mem_filter.2 ⟨hv, bne_iff_ne.2 hvn⟩)).imp_right .inr
  case case3 e es algs h r ih =>
    exact ⟨fun x hx => List.mem_cons.2 ((List.mem_cons.1 hx).imp_right (ih.1 x)), ih.2⟩

theorem cassign_closed (m : Model K) (h : Closed m) : Closed (eliminateConstantAssignments m) := by
  have hs := constLoop_sub m.eqs m.algs
  refine h.mono (fun e he => ?_) (fun n hn => ?_)
  · simp only [eliminateConstantAssignments, Model.exprs, List.mem_append] at he ⊢
    exact he.imp_left (.imp_left (.imp_left (hs.1 e)))
  · -- an algebraic variable stays one or has become a constant
    rw [mem_known] at hn ⊢
    simp only [eliminateConstantAssignments, names, List.map_append, List.mem_append]
    refine hn.imp_right (Or.imp_right (Or.imp_right fun h => ?_))
    rcases h with h1 | h1 | h1 | h1
    · obtain ⟨v, hv, rfl⟩ := List.mem_map.1 h1
      exact (hs.2 v hv).imp_right fun h2 => .inr (.inr (.inr h2))
    · exact .inr (.inl h1)
    · exact .inr (.inr (.inl h1))
    · exact .inr (.inr (.inr (.inl h1)))

theorem pvalues_closed {I : Interp K} {E : Engine K} (hE : EngineOk I E) {m m' : Model K}
    (h : replaceParameterValues E m = .ok m') (hc : Closed m) : Closed m' := by
  obtain ⟨ar, _, rfl⟩ := replaceParameterValues_ok h
  refine closed_substEverywhere hE hc rfl (fun n hn hl => known_mono hn id id id id ?_ id) ?_
  · -- a parameter that leaves is bound by the substitution
    intro h1
    obtain ⟨v, hv, rfl⟩ := List.mem_map.1 h1
    by_cases hcv : hasConstValue v = true
    · exact absurd (by rw [constValues_fst]; exact List.mem_map_of_mem (List.mem_filter.2 ⟨hv, hcv⟩)) hl
    · exact List.mem_map.2 ⟨v, List.mem_filter.2 ⟨hv, by simpa using hcv⟩, rfl⟩
  · intro p hp n hn
    obtain ⟨_, _, _, _, c, hc⟩ := mem_constValues_iff.1 hp
    rw [hc] at hn
    cases hn

theorem cvalues_closed {I : Interp K} {E : Engine K} (hE : EngineOk I E) {m m' : Model K}
    (h : replaceConstantValues E m = .ok m') (hc : Closed m) : Closed m' := by
  obtain ⟨l, ar, hv, _, rfl⟩ := replaceConstantValues_ok h
  refine closed_substEverywhere hE hc rfl (fun n hn hl => known_mono hn id id id id id ?_) ?_
  · intro h1
    obtain ⟨v, hv', rfl⟩ := List.mem_map.1 h1
    by_cases hs : v.simple = true
    · -- `allValues` binds every simple constant
      exact absurd (by rw [allValues_fst hv]; exact List.mem_map_of_mem (List.mem_filter.2 ⟨hv', hs⟩)) hl
    · exact List.mem_map.2 ⟨v, List.mem_filter.2 ⟨hv', by simpa using hs⟩, rfl⟩
  · intro ⟨k, t⟩ hp n hn
    obtain ⟨v, hv', _, hval⟩ := (allValues_mem hv k t).1 hp
    have hs := (List.mem_filter.1 hv').2
    simp only [Var.simple, hval] at hs
    obtain ⟨c, rfl⟩ := isConst_eq_true hs
    cases hn

theorem substFixed_closed {I : Interp K} {E : Engine K} (hE : EngineOk I E) {m m₀ : Model K} {vs : List (Var K)}
    (hc : Closed m) (hex : m₀.exprs = m.exprs)
    (hkeep : ∀ n ∈ m.known, n ∉ (exprValues vs).map (·.1) → n ∈ m₀.known)
    (hv : ∀ p ∈ fixedList E vs, ∀ n ∈ p.2.syms, n ∈ m₀.known) : Closed (substFixed E vs m₀) := by
  obtain ⟨hemp, he⟩ | ⟨w, he⟩ := substFixed_cases E vs m₀ <;> rw [he]
  · exact hc.mono (fun e h => hex ▸ h) fun n hn => hkeep n hn (by rw [hemp]; nofun)
  · exact closed_substEverywhere hE hc hex (fun n hn hl => hkeep n hn (fixedList_fst E vs ▸ hl)) hv

theorem exprValues_keep {vs : List (Var K)} {n : String} (hl : n ∉ (exprValues vs).map (·.1))
    (h : n ∈ names vs) : n ∈ names (vs.filter Var.simple) := by
  obtain ⟨v, hv, rfl⟩ := List.mem_map.1 h
  by_cases hs : v.simple = true
  · exact List.mem_map.2 ⟨v, List.mem_filter.2 ⟨hv, hs⟩, rfl⟩
  · exact absurd (by rw [exprValues_fst]; exact List.mem_map_of_mem (List.mem_filter.2 ⟨hv, by simpa using hs⟩)) hl

theorem pexpr_closed {I : Interp K} {E : Engine K} (hE : EngineOk I E) {m : Model K} (hc : Closed m)
    (hv : ∀ p ∈ fixedList E m.params, ∀ n ∈ p.2.syms,
      n ∈ ({ m with params := m.params.filter Var.simple } : Model K).known) :
    Closed (replaceParameterExpressions E m) :=
  substFixed_closed hE hc rfl (fun _ hn hl => known_mono hn id id id id (exprValues_keep hl) id) hv

theorem cexpr_closed {I : Interp K} {E : Engine K} (hE : EngineOk I E) {m : Model K} (hc : Closed m)
    (hv : ∀ p ∈ fixedList E m.consts, ∀ n ∈ p.2.syms,
      n ∈ ({ m with consts := m.consts.filter Var.simple } : Model K).known) :
    Closed (replaceConstantExpressions E m) :=
  substFixed_closed hE hc rfl (fun _ hn hl => known_mono hn id id id id id (exprValues_keep hl)) hv

theorem Closed.eqs_sub {m : Model K} {es : List (Ex K)} (hc : Closed m) (h : ∀ e ∈ es, e ∈ m.eqs) :
    Closed ({ m with eqs := es } : Model K) := by
  intro e he n hn
  refine hc e ?_ n hn
  simp only [Model.exprs, List.mem_append] at he ⊢
  exact he.imp_left (Or.imp_left (Or.imp_left (h e)))

theorem elim_closed {I : Interp K} {E : Engine K} (hE : EngineOk I E) {expandMx : Bool} {matched : List String}
    {m m' : Model K} (h : eliminateVariables E expandMx matched m = .ok m') (hc : Closed m)
    (hv : ∀ r, elimLoop (names m.states) (names m.states ++ names m.algs) matched m.eqs m.algs = .ok r →
      ∀ p ∈ elimList E r.2.1, ∀ n ∈ p.2.syms, n ∈ ({ m with algs := r.2.2 } : Model K).known) :
    Closed m' := by
  obtain ⟨r, hr, hm'⟩ := eliminateVariables_ok h
  obtain ⟨hs1, hs2, _⟩ := elimLoop_ok hr
  have hc1 : Closed ({ m with eqs := r.1 } : Model K) := hc.eqs_sub hs1
  -- a name stays known unless the loop extracted a binding for it
  have hkeep : ∀ n ∈ m.known, n ∉ r.2.1.map (·.1) → n ∈ ({ m with algs := r.2.2 } : Model K).known := by
    intro n hn hl
    refine known_mono hn id id (fun ha => ?_) id id id
    obtain ⟨w, hw, rfl⟩ := List.mem_map.1 ha
    exact (hs2 w hw).resolve_right hl
  intro e he n hn
  rcases hm' with ⟨hl0, rfl⟩ | ⟨w, rfl⟩
  · exact hkeep n (hc1 e he n hn) (by simp [hl0])
  · have hex : e ∈ ({ m with eqs := r.1 } : Model K).exprs.map (E.sub (elimList E r.2.1)) := by
      rw [← mapExprs_exprs]; exact he
    exact closed_sub hE hc1 (fun n hn hl => hkeep n hn (elimList_fst E _ ▸ hl)) (hv r hr) e hex n hn

end PymocaVerif.Simplify
