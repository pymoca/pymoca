import PymocaVerif.Model.ParseCacheConc
import PymocaVerif.Lemmas.ParseCache
/-! Rely/guarantee lemmas for `parseCachedI`.  `AsGood pf f f'` is what `Rely` asks of a commit, at one
    file; every transaction of `parse` that commits leaves a file as good as it found (`tx…_asGood`),
    which is the guarantee, and is also what carries `Good` through the call's own transactions. -/
namespace PymocaVerif.ParseCache

variable {pf : Ver → TextId → Option TreeId}

/-- the `models` table exists with the expected layout -/
def ModelsOk : DbFile → Prop
  | .db (some m) _ => m.layout = .ok
  | _ => False

/-- the `metadata` table exists with the expected layout -/
def MetaOk : DbFile → Prop
  | .db _ (some (.ok _ _)) => True
  | _ => False

/-- What a call relies on from the other processes' commits: they keep the row invariant, do not turn the file
    into garbage, and do not destroy tables that have the expected layout. -/
structure Rely (pf : Ver → TextId → Option TreeId) (g : DbFile → DbFile) : Prop where
  inv : ∀ f, FileInv pf f → FileInv pf (g f)
  notGarbage : ∀ f, f ≠ .garbage → g f ≠ .garbage
  models : ∀ f, ModelsOk f → ModelsOk (g f)
  metaT : ∀ f, MetaOk f → MetaOk (g f)

/-- the facts a call has established about the shared file so far; `m` / `t` say whether it knows yet that
    the `models` / `metadata` table has the expected layout -/
structure Good (pf : Ver → TextId → Option TreeId) (s : St) (m t : Bool) : Prop where
  inv : RowInv pf s
  notGarbage : s.file ≠ .garbage
  models : m = true → ModelsOk s.file
  metaT : t = true → MetaOk s.file

theorem modelsOk_queryable {f : DbFile} (h : ModelsOk f) : ∃ m, f.queryable = some m ∧ m.layout = .ok := by
  cases f with
  | garbage => cases h
  | db m t =>
    cases m with
    | none => cases h
    | some mm =>
      have hl : mm.layout = .ok := h
      exact ⟨mm, queryable_eq_some.mpr ⟨t, rfl, by rw [hl]; nofun⟩, hl⟩

theorem modelsOk_db {m : Option Models} {t : Option MetaTbl} (t' : Option MetaTbl) (h : ModelsOk (.db m t)) :
    ModelsOk (.db m t') := by
  cases m <;> exact h

theorem metaOk_db {m : Option Models} {t : Option MetaTbl} (m' : Option Models) (h : MetaOk (.db m t)) :
    MetaOk (.db m' t) := by
  cases t with
  | none => exact h
  | some tt => cases tt <;> exact h

theorem metaOk_shape {f : DbFile} (h : MetaOk f) : ∃ m c p, f = .db m (some (.ok c p)) := by
  cases f with
  | garbage => cases h
  | db m t =>
    cases t with
    | none => cases h
    | some tt =>
      cases tt with
      | alien => cases h
      | ok c p => exact ⟨m, c, p, rfl⟩

theorem txMetaDefaults_succeeds {f : DbFile} (t1 t2 : Int) (h : MetaOk f) : ∃ f', txMetaDefaults t1 t2 f = .ok f' := by
  obtain ⟨m, c, p, rfl⟩ := metaOk_shape h
  exact ⟨_, rfl⟩

theorem txPrune_succeeds {f : DbFile} (c t : Int) (hm : ModelsOk f) (ht : MetaOk f) : ∃ f', txPrune c t f = .ok f' := by
  obtain ⟨m, cc, p, rfl⟩ := metaOk_shape ht
  cases m with
  | none => cases hm
  | some mm => exact ⟨_, if_neg (by rw [show mm.layout = .ok from hm]; nofun)⟩

structure AsGood (pf : Ver → TextId → Option TreeId) (f f' : DbFile) : Prop where
  inv : FileInv pf f → FileInv pf f'
  notGarbage : f ≠ .garbage → f' ≠ .garbage
  models : ModelsOk f → ModelsOk f'
  metaT : MetaOk f → MetaOk f'

theorem AsGood.refl (f : DbFile) : AsGood pf f f := ⟨id, id, id, id⟩

theorem AsGood.trans {f g h : DbFile} (a : AsGood pf f g) (b : AsGood pf g h) : AsGood pf f h :=
  ⟨b.inv ∘ a.inv, b.notGarbage ∘ a.notGarbage, b.models ∘ a.models, b.metaT ∘ a.metaT⟩

theorem rely_iff {g : DbFile → DbFile} : Rely pf g ↔ ∀ f, AsGood pf f (g f) :=
  ⟨fun h f => ⟨h.inv f, h.notGarbage f, h.models f, h.metaT f⟩,
   fun h => ⟨fun f => (h f).inv, fun f => (h f).notGarbage, fun f => (h f).models, fun f => (h f).metaT⟩⟩

theorem Good.step {s s' : St} {m t : Bool} (h : Good pf s m t) (a : AsGood pf s.file s'.file) : Good pf s' m t :=
  ⟨a.inv h.inv, a.notGarbage h.notGarbage, a.models ∘ h.models, a.metaT ∘ h.metaT⟩

theorem txCheckModels_asGood {f f' : DbFile} (he : txCheckModels f = .ok f') : AsGood pf f f' ∧ ModelsOk f' := by
  obtain ⟨m, t, rows, rfl, rfl, hsub⟩ := txCheckModels_ok he
  exact ⟨⟨fun h => fileInv_iff.mpr ((fileInv_iff.mp h).of_sub hsub), fun _ => nofun, fun _ => rfl, metaOk_db _⟩, rfl⟩

theorem txCheckMeta_asGood {f f' : DbFile} (he : txCheckMeta f = .ok f') : AsGood pf f f' ∧ MetaOk f' := by
  have hinv := fun h => fileInv_checkMeta (pf := pf) h he
  obtain ⟨m, t, c, p, rfl, rfl⟩ := txCheckMeta_ok he
  exact ⟨⟨hinv, fun _ => nofun, modelsOk_db _, fun _ => trivial⟩, trivial⟩

theorem txMetaDefaults_asGood {f f' : DbFile} {t1 t2 : Int} (he : txMetaDefaults t1 t2 f = .ok f') :
    AsGood pf f f' := by
  have hinv := fun h => fileInv_metaDefaults (pf := pf) h he
  obtain ⟨m, c, p, c', p', rfl, rfl⟩ := txMetaDefaults_ok he
  exact ⟨hinv, fun _ => nofun, modelsOk_db _, fun _ => trivial⟩

theorem txPrune_asGood {f f' : DbFile} {c t : Int} (he : txPrune c t f = .ok f') : AsGood pf f f' := by
  have hinv := fun h => fileInv_prune (pf := pf) h he
  obtain ⟨m, cc, p, p', rfl, _, rfl⟩ := txPrune_ok he
  exact ⟨hinv, fun _ => nofun, id, fun _ => trivial⟩

/-- `setRows` on a table that can be queried changes nothing but the rows -/
theorem asGood_setRows {f : DbFile} {m : Models} {rows : List Row} (hq : f.queryable = some m)
    (hinv : FileInv pf f → FileInv pf (f.setRows rows)) : AsGood pf f (f.setRows rows) := by
  obtain ⟨t, rfl, _⟩ := queryable_eq_some.mp hq
  exact ⟨hinv, fun _ => nofun, id, metaOk_db _⟩

theorem txTouch_asGood {f f' : DbFile} {x : TextId} {v : Ver} {t : Int} (he : txTouch x v t f = .ok f') :
    AsGood pf f f' := by
  have hinv (h : FileInv pf f) := fileInv_iff.mpr (allRows_touch he (fileInv_iff.mp h))
  obtain ⟨m, hq, rfl⟩ := txTouch_ok he
  exact asGood_setRows hq hinv

theorem txInsert_asGood {f f' : DbFile} {x : TextId} {v : Ver} {tree : TreeId} {t : Int} (hpf : pf v x = some tree)
    (he : txInsert x v tree t f = .ok f') : AsGood pf f f' := by
  have hinv (h : FileInv pf f) := fileInv_iff.mpr (allRows_insert (okRow_fresh hpf) he (fileInv_iff.mp h))
  obtain ⟨m, hq, _, rfl⟩ := txInsert_ok he
  exact asGood_setRows hq hinv

theorem rely_of_tx {tx : DbFile → Except Err DbFile} (h : ∀ {f f'}, tx f = .ok f' → AsGood pf f f') :
    Rely pf (fun f => match tx f with | .ok f' => f' | .error _ => f) := by
  refine rely_iff.mpr fun f => ?_
  show AsGood pf f (match tx f with | .ok f' => f' | .error _ => f)
  split
  · next he => exact h he
  · exact .refl f

theorem ownTx_rely {g : DbFile → DbFile} (h : OwnTx pf g) : Rely pf g := by
  induction h with
  | checkModels => exact rely_of_tx fun he => (txCheckModels_asGood he).1
  | checkMeta => exact rely_of_tx fun he => (txCheckMeta_asGood he).1
  | metaDefaults t1 t2 => exact rely_of_tx txMetaDefaults_asGood
  | prune c t => exact rely_of_tx txPrune_asGood
  | touch x v t => exact rely_of_tx txTouch_asGood
  | insert x v tree t hpf => exact rely_of_tx (txInsert_asGood hpf)
  | id => exact rely_iff.mpr .refl
  | comp _ _ ih1 ih2 => exact rely_iff.mpr fun f => (rely_iff.mp ih1 f).trans (rely_iff.mp ih2 _)

theorem good_setFile {s : St} {f : DbFile} {m t : Bool} (hi : FileInv pf f) (hg : f ≠ .garbage)
    (hm : m = true → ModelsOk f) (ht : t = true → MetaOk f) : Good pf { s with file := f } m t :=
  ⟨hi, hg, hm, ht⟩

/-- What the call knows at a point `p` (its state and the interference still to come), having started at
    `p0`: the facts about the file, that the version is the one it started with, and that whatever the
    others still commit satisfies `Rely`. -/
structure After (pf : Ver → TextId → Option TreeId) (p0 p : Pt) (m t : Bool) : Prop where
  good : Good pf p.1 m t
  ver : p.1.ver = p0.1.ver
  rely : ∀ g ∈ p.2, Rely pf g

section Call
variable {p0 p : Pt} {m t : Bool} {s : St} {env : Interference} {x : TextId} {upd : Bool} {cfg : Cfg}

theorem After.others (a : After pf p0 p m t) : After pf p0 (p.1.env p.2) m t := by
  obtain ⟨s, env⟩ := p
  cases env with
  | nil => exact a
  | cons g rest =>
    exact ⟨a.good.step (rely_iff.mp (a.rely g (List.mem_cons_self ..)) s.file), a.ver,
      fun g' hg' => a.rely g' (List.mem_cons_of_mem _ hg')⟩

theorem After.step (a : After pf p0 p m t) {s' : St} (hg : AsGood pf p.1.file s'.file) (hv : s'.ver = p.1.ver) :
    After pf p0 (s', p.2) m t :=
  ⟨a.good.step hg, hv.trans a.ver, a.rely⟩

theorem After.withModels (a : After pf p0 p m t) (h : ModelsOk p.1.file) : After pf p0 p true t :=
  ⟨⟨a.good.inv, a.good.notGarbage, fun _ => h, a.good.metaT⟩, a.ver, a.rely⟩

theorem After.withMeta (a : After pf p0 p m t) (h : MetaOk p.1.file) : After pf p0 p m true :=
  ⟨⟨a.good.inv, a.good.notGarbage, a.good.models, fun _ => h⟩, a.ver, a.rely⟩

theorem stIntegrity_spec (a : After pf p0 p m t) : After pf p0 (stIntegrity p) m t := by
  have a := a.others
  unfold stIntegrity
  generalize p.1.env p.2 = e at a ⊢
  -- the file is not garbage, so the integrity check leaves it alone
  have hi : txIntegrity e.1.file = e.1.file := by
    cases hf : e.1.file with
    | garbage => exact absurd hf a.good.notGarbage
    | db m t => rfl
  refine a.step (s' := { e.1 with file := txIntegrity e.1.file }) ?_ rfl
  rw [hi]
  exact .refl _

theorem stCheckModels_spec (a : After pf p0 p m t) : ∃ p', stCheckModels p = .ok p' ∧ After pf p0 p' true t := by
  have a := a.others
  unfold stCheckModels
  generalize p.1.env p.2 = e at a ⊢
  obtain ⟨f', he⟩ := txCheckModels_succeeds a.good.notGarbage
  obtain ⟨hg, hm⟩ := txCheckModels_asGood (pf := pf) he
  simp only [he]
  exact ⟨_, rfl, (a.step (s' := { e.1 with file := f' }) hg rfl).withModels hm⟩

theorem stCheckMeta_spec (a : After pf p0 p m t) : ∃ p', stCheckMeta p = .ok p' ∧ After pf p0 p' m true := by
  have a := a.others
  unfold stCheckMeta
  generalize p.1.env p.2 = e at a ⊢
  obtain ⟨f', he⟩ := txCheckMeta_succeeds a.good.notGarbage
  obtain ⟨hg, ht⟩ := txCheckMeta_asGood (pf := pf) he
  simp only [he]
  exact ⟨_, rfl, (a.step (s' := { e.1 with file := f' }) hg rfl).withMeta ht⟩

theorem stDefaults_spec (a : After pf p0 p m true) : ∃ p', stDefaults p = .ok p' ∧ After pf p0 p' m true := by
  have a := a.others
  unfold stDefaults
  generalize p.1.env p.2 = e at a ⊢
  obtain ⟨f', he⟩ := txMetaDefaults_succeeds e.1.read.1 e.1.read.2.read.1 (a.good.metaT rfl)
  simp only [read_file, he]
  exact ⟨_, rfl, a.step (s' := { e.1.read.2.read.2 with file := f' }) (txMetaDefaults_asGood he) rfl⟩

theorem stPrune_spec {days : Int} (a : After pf p0 p true true) :
    ∃ p', stPrune days p = .ok p' ∧ After pf p0 p' true true := by
  have a := a.others
  unfold stPrune
  generalize p.1.env p.2 = e at a ⊢
  obtain ⟨f', he⟩ := txPrune_succeeds (e.1.read.1 - days * day) e.1.read.2.read.1 (a.good.models rfl) (a.good.metaT rfl)
  simp only [read_file, he]
  exact ⟨_, rfl, a.step (s' := { e.1.read.2.read.2 with file := f', init := true }) (txPrune_asGood he) rfl⟩

theorem initBlockI_spec {days : Int} (a : After pf p0 (s, env) m t) :
    ∃ p', initBlockI s days env = .ok p' ∧ After pf p0 p' true true := by
  obtain ⟨p1, e1, a1⟩ := stCheckModels_spec (stIntegrity_spec a)
  obtain ⟨p2, e2, a2⟩ := stCheckMeta_spec a1
  obtain ⟨p3, e3, a3⟩ := stDefaults_spec a2
  obtain ⟨p4, e4, a4⟩ := stPrune_spec (days := days) a3
  refine ⟨p4, ?_, a4⟩
  unfold initBlockI
  simp only [e1, e2, e3, e4]

theorem finishI_none_spec (a : After pf p0 (s, env) true t) :
    (finishI pf s x none env).2 = .value (pf p0.1.ver x) ∧ Good pf (finishI pf s x none env).1 true t := by
  unfold finishI
  dsimp only
  rw [show s.ver = p0.1.ver from a.ver]
  cases hpf : pf p0.1.ver x with
  | none => exact ⟨rfl, a.good⟩
  | some tr =>
    dsimp only [read_file, read_ver]
    have a1 := a.others
    generalize s.env env = e at a1 ⊢
    obtain ⟨m, hq, hl⟩ := modelsOk_queryable (a1.good.models rfl)
    have he := txInsert_of_queryable (x := x) (v := e.1.ver) (tree := tr) (t := e.1.read.1) hq
    rw [if_neg (by rw [hl]; nofun)] at he
    rw [he]
    exact ⟨rfl, a1.good.step (s' := { e.1.read.2 with file := _ })
      (txInsert_asGood ((congrArg (pf · x) a1.ver).trans hpf) he)⟩

theorem touchStepI_spec {lh : Int} (a : After pf p0 (s, env) true t) :
    ∃ p', touchStepI s x upd lh env = .ok p' ∧ After pf p0 p' true t := by
  have a : After pf p0 (s.read.2, env) true t := a.step (.refl _) rfl
  unfold touchStepI
  dsimp only [read_file, read_ver]
  split
  · have a := a.others
    generalize s.read.2.env env = e at a ⊢
    obtain ⟨m, hq, _⟩ := modelsOk_queryable (a.good.models rfl)
    have he := txTouch_of_queryable (x := x) (v := e.1.ver) (t := e.1.read.1) hq
    rw [he]
    exact ⟨_, rfl, a.step (s' := { e.1.read.2 with file := _ }) (txTouch_asGood he) rfl⟩
  · exact ⟨_, rfl, a⟩

theorem afterInitI_spec (hc : CaughtAll cfg) (a : After pf p0 (s, env) true t) :
    (afterInitI cfg pf s x upd env).2 = .value (pf p0.1.ver x) ∧ Good pf (afterInitI cfg pf s x upd env).1 true t := by
  unfold afterInitI
  dsimp only
  have a1 : After pf p0 ((s.env env).1, (s.env env).2) true t := a.others
  generalize s.env env = e at a1 ⊢
  obtain ⟨m, hm, _⟩ := modelsOk_queryable (a1.good.models rfl)
  cases hl : txLookup x e.1.ver e.1.file with
  | error e =>
    rw [txLookup_of_queryable hm] at hl
    cases hl
  | ok o =>
    cases o with
    | none => exact finishI_none_spec a1
    | some lb =>
      obtain ⟨lh, blob⟩ := lb
      obtain ⟨p', e2, a2⟩ := touchStepI_spec (x := x) (upd := upd) (lh := lh) a1
      simp only [e2]
      cases blob with
      | good tr =>
        cases tr with
        | none => exact finishI_none_spec a2
        | some tr =>
          obtain ⟨r, hr, hkey, hver, hblob⟩ := txLookup_hit hl
          have hpf := a1.good.inv r hr tr hblob
          rw [hver, hkey, show e.1.ver = p0.1.ver from a1.ver] at hpf
          rw [hpf]
          exact ⟨rfl, a2.good⟩
      | bad e =>
        simp only [hc e, if_true]
        exact finishI_none_spec a2

end Call

/-- **One call under interference**: whatever the other processes commit in the gaps (as long as each commit
    satisfies `Rely`), a call that starts with a database file that is not garbage — and, if this process had
    initialised it before, still has its `models` table — returns the uncached result, and leaves a file of
    which the same holds (`Rely` keeps it so until the process calls again). -/
theorem parseCachedI_spec {cfg : Cfg} {s : St} {x : TextId} {days : Int} {upd : Bool} {env : Interference}
    (hc : CaughtAll cfg) (henv : ∀ g ∈ env, Rely pf g) (h : RowInv pf s) (hng : s.file ≠ .garbage)
    (hinit : s.init = true → ModelsOk s.file) :
    (parseCachedI cfg pf s x days upd env).2 = .value (pf s.ver x) ∧
    RowInv pf (parseCachedI cfg pf s x days upd env).1 ∧ (parseCachedI cfg pf s x days upd env).1.file ≠ .garbage ∧
    ModelsOk (parseCachedI cfg pf s x days upd env).1.file := by
  unfold parseCachedI
  split
  · next hi =>
    obtain ⟨hres, hgood⟩ := afterInitI_spec (p0 := (s, env)) (t := false) (x := x) (upd := upd) hc
      ⟨⟨h, hng, fun _ => hinit hi, nofun⟩, rfl, henv⟩
    exact ⟨hres, hgood.inv, hgood.notGarbage, hgood.models rfl⟩
  · obtain ⟨p', e1, a1⟩ := initBlockI_spec (p0 := (s, env)) (days := days) (m := false) (t := false)
      ⟨⟨h, hng, nofun, nofun⟩, rfl, henv⟩
    simp only [e1]
    obtain ⟨hres, hgood⟩ := afterInitI_spec (x := x) (upd := upd) hc a1
    exact ⟨hres, hgood.inv, hgood.notGarbage, hgood.models rfl⟩

end PymocaVerif.ParseCache
