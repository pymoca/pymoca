import PymocaVerif.Model.ExprGrammar
/-!
# The table-driven parser inverts the printers (C03)

`absorb`: for a table with `TblOK`, reading `pr T p e ++ rest` at a level `p0 ≤ p` is going on with the operator
loop with `strip e` accumulated.  For pymoca's table the Modelica printer is the table printer of `conv`
(`mpr_eq_pr`), which carries the round trip over to Modelica text.  Readings are stated for every sufficiently
large fuel (`Ev`); two of them are joined by `Ev.and`, and monotonicity in the fuel serves `monoTop` alone.
Core Lean only.
-/
namespace PymocaVerif.ExprGrammar
variable (T : Tbl)

/-- `P` holds of every sufficiently large fuel -/
def Ev (P : Nat → Prop) : Prop := ∃ f0, ∀ f, f0 ≤ f → P f

theorem Ev.exists {P : Nat → Prop} (h : Ev P) : ∃ f, P f :=
  let ⟨f0, h0⟩ := h
  ⟨f0, h0 f0 (Nat.le_refl _)⟩

theorem Ev.imp {P Q : Nat → Prop} (h : Ev P) (hPQ : ∀ f, P f → Q f) : Ev Q :=
  let ⟨f0, h0⟩ := h
  ⟨f0, fun f hf => hPQ f (h0 f hf)⟩

theorem Ev.and {P Q : Nat → Prop} (h : Ev P) (h' : Ev Q) : Ev fun f => P f ∧ Q f :=
  let ⟨f1, h1⟩ := h
  let ⟨f2, h2⟩ := h'
  ⟨max f1 f2, fun f hf =>
    ⟨h1 f (Nat.le_trans (Nat.le_max_left _ _) hf), h2 f (Nat.le_trans (Nat.le_max_right _ _) hf)⟩⟩

theorem Ev.of_succ {P : Nat → Prop} (h : ∀ f, P (f+1)) : Ev P :=
  ⟨1, fun
    | f+1, _ => h f⟩

theorem Ev.succ {P Q : Nat → Prop} (h : Ev P) (step : ∀ f, P f → Q (f+1)) : Ev Q :=
  let ⟨f0, h0⟩ := h
  ⟨f0 + 1, fun
    | f+1, hf => step f (h0 f (Nat.le_of_succ_le_succ hf))⟩

theorem mono_of_step {α : Type} {g : Nat → Option α} (step : ∀ f, (g f).isSome → g (f+1) = g f)
    {f f' : Nat} {r : α} (h : g f = some r) (hle : f ≤ f') : g f' = some r := by
  induction hle with
  | refl => exact h
  | step _ ih =>
    rw [step _ (by rw [ih]; rfl)]
    exact ih

/- In each case the hypothesis is split along the branches the smaller fuel took; the results of the calls made
there are then hypotheses, and the induction hypotheses rewrite the calls with one more unit of fuel to them. -/
theorem mono_step : ∀ f,
    (∀ ts, (parsePrimary T f ts).isSome → parsePrimary T (f+1) ts = parsePrimary T f ts) ∧
    (∀ ts, (parsePrefix T f ts).isSome → parsePrefix T (f+1) ts = parsePrefix T f ts) ∧
    (∀ p ts, (parseE T f p ts).isSome → parseE T (f+1) p ts = parseE T f p ts) ∧
    (∀ p l ts, (parseLoop T f p l ts).isSome → parseLoop T (f+1) p l ts = parseLoop T f p l ts) ∧
    (∀ ts, (parseX T f ts).isSome → parseX T (f+1) ts = parseX T f ts) ∧
    (∀ ts, (parseEls T f ts).isSome → parseEls T (f+1) ts = parseEls T f ts) ∧
    (∀ ts, (parseArgs T f ts).isSome → parseArgs T (f+1) ts = parseArgs T f ts) := by
  intro f
  induction f with
  | zero => exact ⟨nofun, nofun, nofun, nofun, nofun, nofun, nofun⟩
  | succ f ih =>
    obtain ⟨ihP, ihF, ihE, ihL, ihX, ihS, ihA⟩ := ih
    refine ⟨?_, ?_, ?_, ?_, ?_, ?_, ?_⟩
    · intro ts h
      unfold parsePrimary at h ⊢
      (repeat' split at h) <;>
        simp only [*, Option.isSome_some, Option.isSome_none, Bool.false_eq_true] at h ⊢
    · intro ts h
      unfold parsePrefix at h ⊢
      (repeat' split at h) <;>
        simp only [*, Option.isSome_some, Option.isSome_none, Bool.false_eq_true] at h ⊢
    · intro p ts h
      unfold parseE at h ⊢
      (repeat' split at h) <;>
        simp only [*, Option.isSome_some, Option.isSome_none, Bool.false_eq_true] at h ⊢
    · intro p l ts h
      unfold parseLoop at h ⊢
      (repeat' split at h) <;>
        simp only [*, Option.isSome_some, Option.isSome_none, Bool.false_eq_true, ↓reduceIte] at h ⊢
    · intro ts h
      unfold parseX at h ⊢
      (repeat' split at h) <;>
        simp only [*, Option.isSome_some, Option.isSome_none, Bool.false_eq_true] at h ⊢
    · intro ts h
      unfold parseEls at h ⊢
      (repeat' split at h) <;>
        simp only [*, Option.isSome_some, Option.isSome_none, Bool.false_eq_true] at h ⊢
    · intro ts h
      unfold parseArgs at h ⊢
      (repeat' split at h) <;>
        simp only [*, Option.isSome_some, Option.isSome_none, Bool.false_eq_true] at h ⊢

theorem monoX {f f' ts r} (h : parseX T f ts = some r) (hle : f ≤ f') : parseX T f' ts = some r :=
  -- `.2.2.2.2.1` is the clause of `mono_step` about `parseX`
  mono_of_step (fun f => (mono_step T f).2.2.2.2.1 ts) h hle

theorem monoTop {f f' ts e} (h : parseTop T f ts = some e) (hle : f ≤ f') : parseTop T f' ts = some e := by
  unfold parseTop at h ⊢
  split at h
  · next e' heq =>
    rw [monoX T heq hle]
    exact h
  · simp at h

def isCloser : Tok → Bool
  | .rp | .comma | .kthen | .kelseif | .kelse => true
  | _ => false

/-- the next token (if any) closes the current `expression` -/
def Closer : List Tok → Prop
  | [] => True
  | t :: _ => isCloser t = true

/-- the next token closes the expression or is a binary operator of level at most `p` -/
def Follow (p : Nat) : List Tok → Prop
  | [] => True
  | Tok.op s :: _ => ∃ o, s.bin? = some o ∧ T.lvl o ≤ p
  | t :: _ => isCloser t = true

/-- the operator loop at level `p` does not continue into these tokens -/
def Stops (p : Nat) : List Tok → Prop
  | Tok.op s :: _ => ∀ o, s.bin? = some o → T.lvl o < p
  | _ => True

theorem Closer.follow {p rest} (h : Closer rest) : Follow T p rest := by
  match rest with
  | [] => trivial
  | t :: ts => cases t <;> first | exact h | cases h

theorem Closer.stops {p rest} (h : Closer rest) : Stops T p rest := by
  match rest with
  | [] => trivial
  | t :: ts => cases t <;> first | trivial | cases h

theorem Follow.cases {p rest} (h : Follow T p rest) :
    Closer rest ∨ ∃ s r o, rest = Tok.op s :: r ∧ s.bin? = some o ∧ T.lvl o ≤ p := by
  match rest with
  | [] => exact Or.inl trivial
  | t :: ts =>
    cases t
    case op s =>
      obtain ⟨o, h1, h2⟩ := h
      exact Or.inr ⟨s, ts, o, rfl, h1, h2⟩
    all_goals exact Or.inl h

theorem Follow.mono {p p' rest} (h : Follow T p rest) (hle : p ≤ p') : Follow T p' rest := by
  rcases h.cases with hc | ⟨s, r, o, rfl, h1, h2⟩
  · exact hc.follow T
  · exact ⟨o, h1, Nat.le_trans h2 hle⟩

theorem Follow.stops {p p' rest} (h : Follow T p rest) (hlt : ∀ o, T.lvl o ≤ p → T.lvl o < p') :
    Stops T p' rest := by
  rcases h.cases with hc | ⟨s, r, o, rfl, h1, h2⟩
  · exact hc.stops T
  · intro o' ho'
    cases h1.symm.trans ho'
    exact hlt o h2

theorem bin_not_pow {s : Sym} {o : BOp} (h : s.bin? = some o) : s.pow? = none := by
  cases s <;> first | rfl | cases h

theorem Follow.nopow {p rest} (h : Follow T p rest) : ∀ s r, rest = Tok.op s :: r → s.pow? = none := by
  rintro s r rfl
  obtain ⟨o, ho, _⟩ := h
  exact bin_not_pow ho

theorem Follow.nolp {p rest} (h : Follow T p rest) : ∀ r, rest ≠ Tok.lp :: r := by
  rintro r rfl
  cases h

@[simp] theorem BOp.sym_bin (o : BOp) : o.sym.bin? = some o := by cases o <;> rfl
@[simp] theorem POp.sym_pre (q : POp) : q.sym.pre? = some q := by cases q <;> rfl
@[simp] theorem WOp.sym_pow (w : WOp) : w.sym.pow? = some w := by cases w <;> rfl
@[simp] theorem WOp.sym_pre (w : WOp) : w.sym.pre? = none := by cases w <;> rfl
@[simp] theorem WOp.sym_bin (w : WOp) : w.sym.bin? = none := by cases w <;> rfl

/-! ### the productions of the parser

Each lemma is one alternative of one rule: from readings of the parts to a reading of the whole, each with every
sufficiently large fuel. -/

theorem loop_stop {p l rest} (h : Stops T p rest) : Ev fun f => parseLoop T f p l rest = some (l, rest) := by
  refine Ev.of_succ fun f => ?_
  unfold parseLoop
  split
  · next s r =>
    split
    · next o ho => rw [if_neg (Nat.not_le.mpr (h o ho))]
    · rfl
  · rfl

theorem loop_step {p l o r rt r' res} (hp : p ≤ T.lvl o) (hE : Ev fun f => parseE T f (T.rl o) r = some (rt, r'))
    (hL : Ev fun f => parseLoop T f p (E.bin o l rt) r' = some res) :
    Ev fun f => parseLoop T f p l (Tok.op o.sym :: r) = some res := by
  refine (hE.and hL).succ fun f ⟨h1, h2⟩ => ?_
  unfold parseLoop
  simp only [BOp.sym_bin, hp, if_true, h1]
  exact h2

theorem expr_of_prefix {ts x rest p0 res} (hF : Ev fun f => parsePrefix T f ts = some (x, rest))
    (hL : Ev fun f => parseLoop T f p0 x rest = some res) : Ev fun f => parseE T f p0 ts = some res := by
  refine (hF.and hL).succ fun f ⟨h1, h2⟩ => ?_
  unfold parseE
  rw [h1]
  exact h2

theorem prefix_pre {q r e r'} (hE : Ev fun f => parseE T f (T.plvl q) r = some (e, r')) :
    Ev fun f => parsePrefix T f (Tok.op q.sym :: r) = some (E.pre q e, r') := by
  refine hE.succ fun f hf => ?_
  unfold parsePrefix
  simp only [POp.sym_pre, hf]

theorem prefix_of_primary {ts x rest} (hts : ∀ s r, ts ≠ Tok.op s :: r)
    (hP : Ev fun f => parsePrimary T f ts = some (x, rest)) (hrest : ∀ s r, rest = Tok.op s :: r → s.pow? = none) :
    Ev fun f => parsePrefix T f ts = some (x, rest) := by
  refine hP.succ fun f hf => ?_
  unfold parsePrefix
  split
  · next s r => exact absurd rfl (hts s r)
  · rw [hf]
    split
    · next heq =>
      cases heq
      rw [hrest _ _ rfl]
    · next heq =>
      cases heq
      rfl
    · next heq => cases heq

theorem prefix_pow {ts a w mid b rest} (hts : ∀ s r, ts ≠ Tok.op s :: r)
    (hPa : Ev fun f => parsePrimary T f ts = some (a, Tok.op w.sym :: mid))
    (hPb : Ev fun f => parsePrimary T f mid = some (b, rest)) :
    Ev fun f => parsePrefix T f ts = some (E.pow w a b, rest) := by
  refine (hPa.and hPb).succ fun f ⟨h1, h2⟩ => ?_
  unfold parsePrefix
  split
  · exact absurd rfl (hts _ _)
  · rw [h1]
    simp only [WOp.sym_pow, h2]

theorem primary_atom {a rest} (h : ∀ r, rest ≠ Tok.lp :: r) :
    Ev fun f => parsePrimary T f (Tok.atom a :: rest) = some (E.atom a, rest) := by
  refine Ev.of_succ fun f => ?_
  unfold parsePrimary
  simp only
  split
  · exact absurd rfl (h _)
  · exact absurd rfl (h _)
  · rfl

theorem primary_paren {B x rest} (hX : Ev fun f => parseX T f (B ++ Tok.rp :: rest) = some (x, Tok.rp :: rest)) :
    Ev fun f => parsePrimary T f ((Tok.lp :: B ++ [Tok.rp]) ++ rest) = some (x, rest) := by
  refine hX.succ fun f hf => ?_
  unfold parsePrimary
  simp only [List.cons_append, List.append_assoc, List.nil_append, hf]

theorem primary_call {n ts as rest} (hts : ∀ r, ts ≠ Tok.rp :: r)
    (hA : Ev fun f => parseArgs T f ts = some (as, rest)) :
    Ev fun f => parsePrimary T f (Tok.atom (Atom.ref n) :: Tok.lp :: ts) = some (E.call n as, rest) :=
  hA.succ fun f hf => by simp only [parsePrimary, hf]

theorem x_of_expr {ts r} (hts : ∀ r', ts ≠ Tok.kif :: r') (h : Ev fun f => parseE T f 0 ts = some r) :
    Ev fun f => parseX T f ts = some r := by
  refine h.succ fun f hf => ?_
  unfold parseX
  split
  · exact absurd rfl (hts _)
  · exact hf

/-- `c then t <else part>` is read after `if` by `expression`, after `elseif` by the else part -/
theorem cond_rule {r c r1 t r2 el r3} (h1 : Ev fun f => parseX T f r = some (c, Tok.kthen :: r1))
    (h2 : Ev fun f => parseX T f r1 = some (t, r2)) (h3 : Ev fun f => parseEls T f r2 = some (el, r3)) :
    (Ev fun f => parseX T f (Tok.kif :: r) = some (E.ite c t el, r3)) ∧
    (Ev fun f => parseEls T f (Tok.kelseif :: r) = some (Els.elif c t el, r3)) :=
  have h := h1.and (h2.and h3)
  ⟨h.succ fun f ⟨h1, h2, h3⟩ => by simp only [parseX, h1, h2, h3],
    h.succ fun f ⟨h1, h2, h3⟩ => by simp only [parseEls, h1, h2, h3]⟩

theorem els_els {r e r'} (h : Ev fun f => parseX T f r = some (e, r')) :
    Ev fun f => parseEls T f (Tok.kelse :: r) = some (Els.els e, r') := by
  refine h.succ fun f hf => ?_
  unfold parseEls
  simp only [hf]

theorem args_last {ts e r} (h : Ev fun f => parseX T f ts = some (e, Tok.rp :: r)) :
    Ev fun f => parseArgs T f ts = some (Args.cons e Args.nil, r) := by
  refine h.succ fun f hf => ?_
  unfold parseArgs
  simp only [hf]

theorem args_cons {ts e r as r'} (h : Ev fun f => parseX T f ts = some (e, Tok.comma :: r))
    (hA : Ev fun f => parseArgs T f r = some (as, r')) : Ev fun f => parseArgs T f ts = some (Args.cons e as, r') := by
  refine (h.and hA).succ fun f ⟨h1, h2⟩ => ?_
  unfold parseArgs
  simp only [h1, h2]

theorem expr_of_primary {ts x rest p p0 res} (hts : ∀ s r, ts ≠ Tok.op s :: r)
    (hP : Ev fun f => parsePrimary T f ts = some (x, rest)) (hfol : Follow T p rest)
    (hL : Ev fun f => parseLoop T f p0 x rest = some res) : Ev fun f => parseE T f p0 ts = some res :=
  expr_of_prefix T (prefix_of_primary T hts hP hfol.nopow) hL

/-- side conditions on a table under which the printer `pr` is inverted by the parser -/
structure TblOK (T : Tbl) : Prop where
  lvl_pos : ∀ o, 1 ≤ T.lvl o
  left_assoc : ∀ o, T.lvl o < T.rl o
  plvl_pos : ∀ q, 1 ≤ T.plvl q
  pre_ne : ∀ q o, T.lvl o ≠ T.plvl q

def E.isIte : E → Bool
  | .ite _ _ _ => true
  | _ => false

theorem pr_head (hT : TblOK T) : ∀ (e : E) (p : Nat),
    ∃ t tl, pr T p e = t :: tl ∧ isCloser t = false ∧ (t = Tok.kif → p = 0 ∧ e.isIte = true)
  | .atom a, p => ⟨Tok.atom a, _, by rw [pr], rfl, nofun⟩
  | .bin o l r, p => by
    obtain ⟨t, tl, h1, h2, h3⟩ := pr_head hT l (T.lvl o)
    have := hT.lvl_pos o
    by_cases hp : p ≤ T.lvl o
    · refine ⟨t, _, by rw [pr, if_pos hp, h1]; rfl, h2, fun ht => ?_⟩
      have := (h3 ht).1
      omega
    · exact ⟨Tok.lp, _, by rw [pr, if_neg hp]; rfl, rfl, nofun⟩
  | .pre q e, p => by
    by_cases hp : p ≤ T.plvl q
    · exact ⟨Tok.op q.sym, _, by rw [pr, if_pos hp], rfl, nofun⟩
    · exact ⟨Tok.lp, _, by rw [pr, if_neg hp]; rfl, rfl, nofun⟩
  | .pow w a b, p => by
    by_cases ha : a.isPrimary
    · obtain ⟨t, tl, h1, h2, h3⟩ := pr_head hT a 0
      refine ⟨t, _, by rw [pr, if_pos ha, h1]; rfl, h2, fun ht => ?_⟩
      have := (h3 ht).2
      cases a <;> cases ha <;> cases this
    · exact ⟨Tok.lp, _, by rw [pr, if_neg ha]; rfl, rfl, nofun⟩
  | .paren e, p => ⟨Tok.lp, _, by rw [pr]; rfl, rfl, nofun⟩
  | .ite c t r, p => by
    by_cases hp : p = 0
    · exact ⟨Tok.kif, _, by rw [pr, if_pos hp], rfl, fun _ => ⟨hp, rfl⟩⟩
    · exact ⟨Tok.lp, _, by rw [pr, if_neg hp]; rfl, rfl, nofun⟩
  | .call f as, p => ⟨Tok.atom (Atom.ref f), _, by rw [pr], rfl, nofun⟩

theorem prArgs_head (hT : TblOK T) : ∀ (as : Args), as ≠ Args.nil → ∀ rest r, prArgs T as ++ rest ≠ Tok.rp :: r
  | .nil, h, _, _ => absurd rfl h
  | .cons e .nil, _, rest, r | .cons e (.cons _ _), _, rest, r => by
    obtain ⟨t, tl, h1, h2, _⟩ := pr_head T hT e 0
    rw [prArgs, h1]
    rintro ⟨⟩
    cases h2

theorem prEls_closer (r : Els) (rest : List Tok) : Closer (prEls T r ++ rest) := by
  cases r <;> rfl

theorem pr_primary_indep {x : E} (h : x.isPrimary = true) (p p' : Nat) : pr T p x = pr T p' x := by
  cases x <;> first | rfl | cases h

theorem pr_primary_head {x : E} (h : x.isPrimary = true) (p : Nat) (rest : List Tok) :
    ∀ s r, pr T p x ++ rest ≠ Tok.op s :: r := by
  cases x <;> cases h <;> simp [pr]

/-- as an operand: parsing `pr p e ++ rest` at level `p0 ≤ p` = continuing the operator loop with `strip e`
accumulated -/
def AsOperand (e : E) : Prop :=
  ∀ (p p0 : Nat) (rest : List Tok) (res : E × List Tok),
    p0 ≤ p → (e.isIte = true → p ≠ 0) → Follow T p rest →
    (Ev fun f => parseLoop T f p0 (strip e) rest = some res) →
    Ev fun f => parseE T f p0 (pr T p e ++ rest) = some res

/-- in an `expression` position, before a closing token -/
def AsExpression (e : E) : Prop :=
  ∀ rest, Closer rest → Ev fun f => parseX T f (pr T 0 e ++ rest) = some (strip e, rest)

/-- a primary, by rule `primary` -/
def AsPrimary (e : E) : Prop :=
  e.isPrimary = true → ∀ rest, (∀ r, rest ≠ Tok.lp :: r) →
    Ev fun f => parsePrimary T f (pr T 0 e ++ rest) = some (strip e, rest)

/-- the parser inverts the printer on `e` in each of the three positions -/
structure Absorbs (e : E) : Prop where
  operand : AsOperand T e
  expression : AsExpression T e
  primary : AsPrimary T e

theorem asExpression_of_operand (hT : TblOK T) (e : E) (hne : e.isIte = false)
    (hE : ∀ rest res, Follow T 0 rest → (Ev fun f => parseLoop T f 0 (strip e) rest = some res) →
      Ev fun f => parseE T f 0 (pr T 0 e ++ rest) = some res) : AsExpression T e := by
  intro rest hc
  refine x_of_expr T ?_ (hE rest _ (hc.follow T) (loop_stop T (hc.stops T)))
  obtain ⟨t, tl, h1, _, h3⟩ := pr_head T hT e 0
  rw [h1]
  rintro r' ⟨⟩
  have := (h3 rfl).2
  rw [hne] at this
  cases this

theorem operand_parens {B : List Tok} {x : E}
    (hX : ∀ rest, Closer rest → Ev fun f => parseX T f (B ++ rest) = some (x, rest))
    {p p0 rest res} (hfol : Follow T p rest) (hL : Ev fun f => parseLoop T f p0 x rest = some res) :
    Ev fun f => parseE T f p0 ((Tok.lp :: B ++ [Tok.rp]) ++ rest) = some res :=
  expr_of_primary T (by nofun) (primary_paren T (hX (Tok.rp :: rest) rfl)) hfol hL

/-- An expression that is no primary and has a level `k` of its own, printed bare up to `k` and in parentheses
above it: it is enough to read the bare print at the levels up to `k`. -/
theorem absorbs_of_level (hT : TblOK T) {e : E} (hne : e.isIte = false) (hnp : e.isPrimary = false)
    (k : Nat)
    (hhigh : ∀ p, k < p → pr T p e = Tok.lp :: pr T 0 e ++ [Tok.rp])
    (hlow : ∀ p p0 rest res, p0 ≤ p → p ≤ k → Follow T p rest →
      (Ev fun f => parseLoop T f p0 (strip e) rest = some res) →
      Ev fun f => parseE T f p0 (pr T p e ++ rest) = some res) :
    Absorbs T e := by
  have hX : AsExpression T e :=
    asExpression_of_operand T hT e hne (fun rest res => hlow 0 0 rest res (Nat.le_refl _) (Nat.zero_le _))
  refine ⟨fun p p0 rest res hp _ hfol hL => ?_, hX,
    fun hp => absurd (hnp.symm.trans hp) Bool.false_ne_true⟩
  by_cases hpk : p ≤ k
  · exact hlow p p0 rest res hp hpk hfol hL
  · rw [hhigh p (Nat.lt_of_not_le hpk)]
    exact operand_parens T hX hfol hL

theorem absorb_of_primary (hT : TblOK T) {e : E} (hp : e.isPrimary = true) (hP : AsPrimary T e) :
    Absorbs T e := by
  have hne : e.isIte = false := by cases e <;> first | rfl | cases hp
  have hE : AsOperand T e := by
    intro p p0 rest res _ _ hfol hL
    rw [pr_primary_indep T hp p 0]
    exact expr_of_primary T (pr_primary_head T hp 0 rest) (hP hp rest hfol.nolp) hfol hL
  exact ⟨hE,
    asExpression_of_operand T hT e hne (fun rest res => hE 0 0 rest res (Nat.le_refl _) (by rw [hne]; nofun)), hP⟩

/-- argument of `^`: a primary as it is, anything else in parentheses -/
theorem pow_operand (a : E) (h : Absorbs T a) (rest : List Tok) (hr : ∀ r, rest ≠ Tok.lp :: r) :
    (Ev fun f => parsePrimary T f ((if a.isPrimary then pr T 0 a else Tok.lp :: pr T 0 a ++ [Tok.rp]) ++ rest)
      = some (strip a, rest)) ∧
    (∀ s r, (if a.isPrimary then pr T 0 a else Tok.lp :: pr T 0 a ++ [Tok.rp]) ++ rest ≠ Tok.op s :: r) := by
  by_cases ha : a.isPrimary = true
  · rw [if_pos ha]
    exact ⟨h.primary ha rest hr, pr_primary_head T ha 0 rest⟩
  · rw [if_neg ha]
    exact ⟨primary_paren T (h.expression (Tok.rp :: rest) rfl), nofun⟩

mutual
theorem absorb (hT : TblOK T) : ∀ (e : E), Absorbs T e
  | .atom a => absorb_of_primary T hT rfl (fun _ _ hr => primary_atom T hr)
  | .paren e => absorb_of_primary T hT rfl (fun _ rest _ =>
      primary_paren T ((absorb hT e).expression (Tok.rp :: rest) rfl))
  | .call fn .nil => absorb_of_primary T hT rfl (fun _ rest _ => Ev.of_succ fun _ => rfl)
  | .call fn (.cons e as) => absorb_of_primary T hT rfl (fun _ rest _ =>
      primary_call T (prArgs_head T hT (.cons e as) nofun rest) (absorb_args hT (.cons e as) rest nofun))
  | .bin o l r => by
    have hlv := hT.lvl_pos o
    have hrl := hT.left_assoc o
    exact absorbs_of_level T hT (e := .bin o l r) rfl rfl (T.lvl o)
      (fun p hp => by simp only [pr, Nat.not_le.mpr hp, if_false, Nat.zero_le, if_true])
      (fun p p0 rest res hp0 hp hfol hL => by
        -- the right operand is read up to `rest`; then the loop goes on with `l o r` accumulated
        have hfol' := hfol.mono T hp
        have hR := (absorb hT r).operand (T.rl o) (T.rl o) rest (strip r, rest) (Nat.le_refl _)
          (fun _ => Nat.ne_zero_of_lt hrl)
          (hfol'.mono T (Nat.le_of_lt hrl)) (loop_stop T (hfol'.stops T fun _ h => Nat.lt_of_le_of_lt h hrl))
        have hp0 := Nat.le_trans hp0 hp
        have := (absorb hT l).operand (T.lvl o) p0 (Tok.op o.sym :: (pr T (T.rl o) r ++ rest)) res hp0
          (fun _ => Nat.ne_of_gt hlv) ⟨o, BOp.sym_bin o, Nat.le_refl _⟩ (loop_step T hp0 hR hL)
        simpa only [pr, hp, if_true, List.append_assoc, List.cons_append] using this)
  | .pre q e => by
    have hpl := hT.plvl_pos q
    exact absorbs_of_level T hT (e := .pre q e) rfl rfl (T.plvl q)
      (fun p hp => by simp only [pr, Nat.not_le.mpr hp, if_false, Nat.zero_le, if_true])
      (fun p p0 rest res hp0 hp hfol hL => by
        have hfol' := hfol.mono T hp
        have hO := (absorb hT e).operand (T.plvl q) (T.plvl q) rest (strip e, rest) (Nat.le_refl _)
          (fun _ => Nat.ne_of_gt hpl)
          hfol' (loop_stop T (hfol'.stops T fun o h => Nat.lt_of_le_of_ne h (hT.pre_ne q o)))
        have := expr_of_prefix T (prefix_pre T hO) hL
        simpa only [pr, hp, if_true, List.cons_append] using this)
  | .pow w a b => by
    have hE : AsOperand T (.pow w a b) := by
      intro p p0 rest res _ _ hfol hL
      obtain ⟨hb, _⟩ := pow_operand T b (absorb hT b) rest hfol.nolp
      obtain ⟨ha, hna⟩ := pow_operand T a (absorb hT a)
        (Tok.op w.sym :: ((if b.isPrimary then pr T 0 b else Tok.lp :: pr T 0 b ++ [Tok.rp]) ++ rest)) nofun
      have := expr_of_prefix T (prefix_pow T hna ha hb) hL
      simpa only [pr, List.append_assoc, List.cons_append] using this
    exact ⟨hE, asExpression_of_operand T hT _ rfl (fun rest res => hE 0 0 rest res (Nat.le_refl _) nofun), nofun⟩
  | .ite c t r => by
    have hX : AsExpression T (.ite c t r) := fun rest hc => by
      have := (cond_rule T ((absorb hT c).expression (Tok.kthen :: (pr T 0 t ++ (prEls T r ++ rest))) rfl)
        ((absorb hT t).expression _ (prEls_closer T r rest)) (absorb_els hT r rest hc)).1
      simpa only [pr, strip, if_true, List.cons_append, List.append_assoc] using this
    refine ⟨fun p p0 rest res _ hp0 hfol hL => ?_, hX, nofun⟩
    have := operand_parens T hX hfol hL
    simpa only [pr, hp0 rfl, if_false, if_true] using this
theorem absorb_els (hT : TblOK T) : ∀ (r : Els) (rest : List Tok), Closer rest →
    Ev fun f => parseEls T f (prEls T r ++ rest) = some (stripEls r, rest)
  | .els e, rest, hc => els_els T ((absorb hT e).expression rest hc)
  | .elif c t r, rest, hc => by
    have := (cond_rule T ((absorb hT c).expression (Tok.kthen :: (pr T 0 t ++ (prEls T r ++ rest))) rfl)
      ((absorb hT t).expression _ (prEls_closer T r rest)) (absorb_els hT r rest hc)).2
    simpa only [prEls, stripEls, List.cons_append, List.append_assoc] using this
theorem absorb_args (hT : TblOK T) : ∀ (as : Args) (rest : List Tok), as ≠ Args.nil →
    Ev fun f => parseArgs T f (prArgs T as ++ rest) = some (stripArgs as, rest)
  | .nil, _, h => absurd rfl h
  | .cons e .nil, rest, _ => by
    have := args_last T ((absorb hT e).expression (Tok.rp :: rest) rfl)
    simpa only [prArgs, stripArgs, List.append_assoc, List.singleton_append] using this
  | .cons e (.cons e' r), rest, _ => by
    have := args_cons T ((absorb hT e).expression (Tok.comma :: (prArgs T (.cons e' r) ++ rest)) rfl)
      (absorb_args hT (.cons e' r) rest nofun)
    simpa only [prArgs, stripArgs, List.append_assoc, List.cons_append] using this
end

theorem absorbEls (hT : TblOK T) : ∀ (r : Els) (rest : List Tok), Closer rest →
    ∃ f, parseEls T f (prEls T r ++ rest) = some (stripEls r, rest) :=
  fun r rest hc => (absorb_els T hT r rest hc).exists

theorem absorbArgs (hT : TblOK T) : ∀ (as : Args) (rest : List Tok), as ≠ Args.nil →
    ∃ f, parseArgs T f (prArgs T as ++ rest) = some (stripArgs as, rest) :=
  fun as rest h => (absorb_args T hT as rest h).exists

theorem parse_pr (hT : TblOK T) (e : E) : Ev fun f => parseTop T f (pr T 0 e) = some (strip e) := by
  refine ((absorb T hT e).expression [] trivial).imp fun f hf => ?_
  simp only [List.append_nil] at hf
  simp only [parseTop, hf]

theorem modelicaTbl_ok : TblOK modelicaTbl where
  lvl_pos := by
    intro o
    cases o <;> decide
  left_assoc := by
    intro o
    cases o <;> decide
  plvl_pos := by
    intro q
    cases q <;> decide
  pre_ne := by
    intro q o
    cases q <;> cases o <;> decide

theorem BOp.mlv_shape (o : BOp) :
    1 ≤ o.mlv.1 ∧ o.mlv.1 ≤ 6 ∧ o.mlv.1 ≤ o.mlv.2.1 ∧ o.mlv.2.1 ≤ o.mlv.1 + 1 ∧ o.mlv.2.2 = o.mlv.1 + 1 := by
  cases o <;> decide

theorem BOp.mlv_pos (o : BOp) : 1 ≤ o.mlv.1 := (BOp.mlv_shape o).1

theorem BOp.mlv_le_six (o : BOp) : o.mlv.1 ≤ 6 := (BOp.mlv_shape o).2.1

theorem BOp.mlv_left {o : BOp} (h : o.mlv.1 ≠ 4) : o.mlv.2.1 = o.mlv.1 := by
  revert h
  cases o <;> decide

theorem BOp.mlv_of_isMul {o : BOp} (h : o.isMul = true) : o.mlv = (6, 6, 7) := by
  revert h
  cases o <;> decide

theorem BOp.isMul_of_le {o : BOp} (h : 6 ≤ o.mlv.1) : o.isMul = true := by
  revert h
  cases o <;> decide

theorem BOp.mlv_of_add {o : BOp} (h : o.mlv.1 = 5) : o.mlv = (5, 5, 6) := by
  revert h
  cases o <;> decide

theorem BOp.mlv_of_rel {o : BOp} (h : o.mlv.1 = 4) : o.mlv = (4, 5, 5) := by
  revert h
  cases o <;> decide

/-- pymoca's levels are the specification's shifted by one -/
theorem modelicaTbl_mlv (o : BOp) : modelicaTbl.lvl o = o.mlv.1 + 1 ∧ modelicaTbl.rl o = o.mlv.2.2 + 1 := by
  cases o <;> exact ⟨rfl, rfl⟩

theorem modelicaTbl_plvl_sign {s : POp} (hs : s ≠ POp.not) : modelicaTbl.plvl s = 9 := by
  cases s <;> first | rfl | exact absurd rfl hs

/-- the levels whose rule is a repetition `X { op X }` -/
def LoopLvl (m : Nat) : Prop := m = 1 ∨ m = 2 ∨ m = 5 ∨ m = 6

theorem LoopLvl.pos {m} (h : LoopLvl m) : 1 ≤ m := by
  rcases h with rfl | rfl | rfl | rfl <;> decide

theorem LoopLvl.le_six {m} (h : LoopLvl m) : m ≤ 6 := by
  rcases h with rfl | rfl | rfl | rfl <;> decide

theorem LoopLvl.ne_three {m} (h : LoopLvl m) : m ≠ 3 := by
  rcases h with rfl | rfl | rfl | rfl <;> decide

theorem LoopLvl.ne_four {m} (h : LoopLvl m) : m ≠ 4 := by
  rcases h with rfl | rfl | rfl | rfl <;> decide

theorem BOp.loopLvl {o : BOp} (h : o.mlv.1 ≠ 4) : LoopLvl o.mlv.1 := by
  revert h
  unfold LoopLvl
  cases o <;> decide

theorem loop_op_levels {o : BOp} {m : Nat} (hl : LoopLvl m) (h : o.mlv.1 = m) :
    o.mlv.2.1 = m ∧ o.mlv.2.2 = m + 1 := by
  subst h
  exact ⟨BOp.mlv_left hl.ne_four, (BOp.mlv_shape o).2.2.2.2⟩

theorem mpr_body (e : E) (m : Nat) (h : m ≤ e.mlevel) : mpr m e = mpr e.mlevel e := by
  cases e with
  | atom _ | paren _ | call _ _ => simp [mpr]
  | bin _ _ _ | pre _ _ | pow _ _ _ =>
    simp only [E.mlevel] at h
    simp [mpr, E.mlevel, h]
  | ite c t r =>
    simp only [E.mlevel] at h
    simp [mpr, E.mlevel, Nat.le_zero.mp h]

theorem mpr_zero {e : E} {m : Nat} (h : m ≤ e.mlevel) : mpr m e = mpr 0 e := by
  rw [mpr_body e m h, mpr_body e 0 (Nat.zero_le _)]

theorem mpr_paren (e : E) (m : Nat) (h : e.mlevel < m) (h8 : m ≤ 8) :
    mpr m e = Tok.lp :: (mpr 0 e ++ [Tok.rp]) := by
  cases e with
  | atom _ | paren _ | call _ _ => exact absurd h8 (Nat.not_le.mpr h)
  | bin _ _ _ | pre _ _ | pow _ _ _ =>
    simp only [E.mlevel] at h
    simp [mpr, Nat.not_le.mpr h]
  | ite c t r => simp [mpr, (Nat.ne_of_gt h : m ≠ 0)]

/-- printed as a Modelica `term` with pymoca's levels: a product chain of factors -/
def E.termLike : E → Bool
  | .bin o l _ => o.isMul && l.termLike
  | .pre _ _ => false
  | .ite _ _ _ => false
  | _ => true

theorem conv6_termLike : ∀ (e : E), (conv 6 e).termLike = true
  | .bin o l r => by
    by_cases h : 6 ≤ o.mlv.1
    · have hm := BOp.isMul_of_le h
      rw [conv, BOp.mlv_of_isMul hm, if_pos (Nat.le_refl 6)]
      simp only [E.termLike, hm, conv6_termLike l, Bool.and_self]
    · simp only [conv, h, if_false, E.termLike]
  | .pre .not _ | .pre .pos _ | .pre .neg _ => rfl
  | .atom _ | .pow _ _ _ | .paren _ | .ite _ _ _ | .call _ _ => rfl

theorem conv8_primary : ∀ (e : E), (conv 8 e).isPrimary = true
  | .bin o _ _ => by
    have : ¬ 8 ≤ o.mlv.1 := Nat.not_le.mpr (Nat.lt_of_le_of_lt o.mlv_le_six (by decide))
    simp only [conv, this, if_false, E.isPrimary]
  | .pre .not _ | .pre .pos _ | .pre .neg _ => rfl
  | .atom _ | .pow _ _ _ | .paren _ | .ite _ _ _ | .call _ _ => rfl

/-- a sign in front: its operand level 9 is above every level the printer is asked for -/
theorem pr_sign {s : POp} (hs : s ≠ POp.not) {p : Nat} (hp : p ≤ 9) (x : E) :
    pr modelicaTbl p (.pre s x) = Tok.op s.sym :: pr modelicaTbl 9 x := by
  simp only [pr, modelicaTbl_plvl_sign hs, hp, if_true]

theorem pushSign_pr (s : POp) (hs : s ≠ POp.not) : ∀ (x : E) (p : Nat), x.termLike = true → p ≤ 7 →
    pr modelicaTbl p (pushSign s x) = Tok.op s.sym :: pr modelicaTbl 7 x
  | .bin o l r, p, h, hp => by
    simp only [E.termLike, Bool.and_eq_true] at h
    have hl : modelicaTbl.lvl o = 7 := by rw [(modelicaTbl_mlv o).1, BOp.mlv_of_isMul h.1]
    simp only [pushSign, h.1, if_true, pr, hl, hp, Nat.le_refl, pushSign_pr s hs l 7 h.2 (Nat.le_refl _),
      List.cons_append]
  | .atom _, _, _, hp | .pow _ _ _, _, _, hp | .paren _, _, _, hp | .call _ _, _, _, hp =>
    pr_sign hs (Nat.le_trans hp (by decide)) _
  | .pre _ _, _, h, _ | .ite _ _ _, _, h, _ => by cases h

/-- Modelica level `m` and table level `p` describe the same position -/
def Compat (m p : Nat) : Prop := (m = 0 ∧ p = 0) ∨ (1 ≤ m ∧ 1 ≤ p ∧ p ≤ m + 1)

theorem Compat.zero : Compat 0 0 := Or.inl ⟨rfl, rfl⟩

theorem Compat.le {m p k : Nat} (hc : Compat m p) (hm : m ≤ k) : p ≤ k + 1 := by
  rcases hc with ⟨_, hp⟩ | ⟨_, _, hp⟩ <;> omega

theorem modelicaTbl_compat (o : BOp) :
    modelicaTbl.lvl o = o.mlv.1 + 1 ∧ Compat o.mlv.2.1 (modelicaTbl.lvl o) ∧ Compat o.mlv.2.2 (modelicaTbl.rl o) := by
  obtain ⟨h1, h2⟩ := modelicaTbl_mlv o
  have := BOp.mlv_shape o
  exact ⟨h1, Or.inr (by omega), Or.inr (by omega)⟩

theorem POp.mlv_sign {s : POp} (hs : s ≠ POp.not) : s.mlv = (5, 6) := by
  cases s <;> first | rfl | exact absurd rfl hs

theorem conv_pre_sign {s : POp} (hs : s ≠ POp.not) (m : Nat) (e : E) :
    conv m (.pre s e) = if m ≤ 5 then pushSign s (conv 6 e) else .paren (pushSign s (conv 6 e)) := by
  cases s <;> first | rfl | exact absurd rfl hs

/-- a sign: the Modelica printer prints the operand as a `term`, pymoca's tree has the sign on its first factor -/
theorem mpr_eq_pr_sign {s : POp} (hs : s ≠ POp.not) {e : E} (ih : mpr 6 e = pr modelicaTbl 7 (conv 6 e))
    {m p : Nat} (hc : Compat m p) : mpr m (.pre s e) = pr modelicaTbl p (conv m (.pre s e)) := by
  have hps := fun p hp => pushSign_pr s hs (conv 6 e) p (conv6_termLike e) hp
  rw [conv_pre_sign hs]
  by_cases hm : m ≤ 5
  · simp only [mpr, POp.mlv_sign hs, hm, if_true, ih, hps p (Nat.le_succ_of_le (hc.le hm))]
  · simp only [mpr, POp.mlv_sign hs, hm, if_false, ih, pr, hps 0 (Nat.zero_le _)]

mutual
theorem mpr_eq_pr : ∀ (e : E) (m p : Nat), Compat m p → mpr m e = pr modelicaTbl p (conv m e)
  | .atom a, m, p, _ => by simp [mpr, conv, pr]
  | .bin o l r, m, p, hc => by
    obtain ⟨h1, h2, h3⟩ := modelicaTbl_compat o
    have ihl := mpr_eq_pr l _ _ h2
    have ihr := mpr_eq_pr r _ _ h3
    by_cases hm : m ≤ o.mlv.1
    · have hp : p ≤ modelicaTbl.lvl o := h1 ▸ hc.le hm
      simp [mpr, conv, pr, hm, hp, ihl, ihr]
    · simp [mpr, conv, pr, hm, ihl, ihr]
  | .pre .not e, m, p, hc => by
    have ih := mpr_eq_pr e 4 4 (Or.inr (by decide))
    by_cases hm : m ≤ 3
    · have hp : p ≤ 4 := hc.le hm
      simp [mpr, conv, pr, POp.mlv, hm, modelicaTbl, hp, ih]
    · simp [mpr, conv, pr, POp.mlv, hm, modelicaTbl, ih]
  | .pre .neg e, m, p, hc | .pre .pos e, m, p, hc =>
    mpr_eq_pr_sign (by simp) (mpr_eq_pr e 6 7 (Or.inr (by decide))) hc
  | .pow w a b, m, p, _ => by
    have iha := mpr_eq_pr a 8 1 (Or.inr (by decide))
    have ihb := mpr_eq_pr b 8 1 (Or.inr (by decide))
    rw [pr_primary_indep modelicaTbl (conv8_primary a) 1 0] at iha
    rw [pr_primary_indep modelicaTbl (conv8_primary b) 1 0] at ihb
    by_cases hm : m ≤ 7 <;> simp [mpr, conv, pr, hm, iha, ihb, conv8_primary]
  | .paren e, m, p, _ => by
    have ih := mpr_eq_pr e 0 0 Compat.zero
    simp [mpr, conv, pr, ih]
  | .ite c t r, m, p, hc => by
    have ihc := mpr_eq_pr c 0 0 Compat.zero
    have iht := mpr_eq_pr t 0 0 Compat.zero
    have ihr := mprEls_eq r
    by_cases hm : m = 0
    · have hp : p = 0 := by rcases hc with ⟨_, hp⟩ | ⟨_, _, hp⟩ <;> omega
      simp [mpr, conv, pr, hm, hp, ihc, iht, ihr]
    · simp [mpr, conv, pr, hm, ihc, iht, ihr]
  | .call f as, m, p, _ => by
    simp [mpr, conv, pr, mprArgs_eq as]
theorem mprEls_eq : ∀ (r : Els), mprEls r = prEls modelicaTbl (convEls r)
  | .els e => by simp [mprEls, convEls, prEls, mpr_eq_pr e 0 0 Compat.zero]
  | .elif c t r => by
    simp [mprEls, convEls, prEls, mpr_eq_pr c 0 0 Compat.zero, mpr_eq_pr t 0 0 Compat.zero,
      mprEls_eq r]
theorem mprArgs_eq : ∀ (as : Args), mprArgs as = prArgs modelicaTbl (convArgs as)
  | .nil => by simp [mprArgs, convArgs, prArgs]
  | .cons e .nil => by simp [mprArgs, convArgs, prArgs, mpr_eq_pr e 0 0 Compat.zero]
  | .cons e (.cons e' r) => by
    have := mprArgs_eq (.cons e' r)
    simp only [convArgs] at this
    simp [mprArgs, convArgs, prArgs, mpr_eq_pr e 0 0 Compat.zero, this]
end

/-- **Round trip for Modelica text**: the parser with pymoca's table rebuilds `expected e` from the Modelica
print of `e`. -/
theorem parseTop_mprint (e : E) : Ev fun f => parseTop modelicaTbl f (mprint e) = some (expected e) := by
  unfold mprint expected
  rw [mpr_eq_pr e 0 0 Compat.zero]
  exact parse_pr modelicaTbl modelicaTbl_ok (conv 0 e)

/-- a tree that pymoca builds as it stands is what the parser makes of its Modelica print -/
theorem parseTop_of_mprint {e : E} {ts : List Tok} (hts : mprint e = ts) (he : expected e = e) :
    ∃ f, parseTop modelicaTbl f ts = some e := by
  have := (parseTop_mprint e).exists
  rwa [hts, he] at this

mutual
theorem eval_strip {V : Type} (I : Interp V) : ∀ (e : E), eval I (strip e) = eval I e
  | .atom _ => by simp [strip, eval]
  | .bin _ l r | .pow _ l r => by simp [strip, eval, eval_strip I l, eval_strip I r]
  | .pre _ e | .paren e => by simp [strip, eval, eval_strip I e]
  | .ite c t r => by simp [strip, eval, eval_strip I c, eval_strip I t, evalEls_strip I r]
  | .call f as => by simp [strip, eval, evalArgs_strip I as]
theorem evalEls_strip {V : Type} (I : Interp V) : ∀ (r : Els), evalEls I (stripEls r) = evalEls I r
  | .els e => by simp [stripEls, evalEls, eval_strip I e]
  | .elif c t r => by simp [stripEls, evalEls, eval_strip I c, eval_strip I t, evalEls_strip I r]
theorem evalArgs_strip {V : Type} (I : Interp V) : ∀ (as : Args), evalArgs I (stripArgs as) = evalArgs I as
  | .nil => by simp [stripArgs, evalArgs]
  | .cons e r => by simp [stripArgs, evalArgs, eval_strip I e, evalArgs_strip I r]
end

theorem eval_pushSign {V : Type} (I : Interp V) (hI : I.SignLaw) (s : POp) (hs : s ≠ POp.not) :
    ∀ (x : E), eval I (pushSign s x) = I.pre s (eval I x)
  | .bin o l r => by
    by_cases ho : o.isMul = true
    · simp only [pushSign, ho, if_true, eval, eval_pushSign I hI s hs l, hI s o _ _ hs ho]
    · simp only [pushSign, ho, Bool.false_eq_true, if_false, eval]
  | .atom _ | .pre _ _ | .pow _ _ _ | .paren _ | .ite _ _ _ | .call _ _ => by simp only [pushSign, eval]

theorem eval_if_paren {V : Type} (I : Interp V) (c : Prop) [Decidable c] (x : E) :
    eval I (if c then x else .paren x) = eval I x := by
  split
  · rfl
  · rw [eval]

mutual
theorem eval_conv {V : Type} (I : Interp V) (hI : I.SignLaw) : ∀ (e : E) (m : Nat), eval I (conv m e) = eval I e
  | .atom _, _ => by rw [conv]
  | .bin o l r, m => by simp only [conv, eval_if_paren, eval, eval_conv I hI l, eval_conv I hI r]
  | .pre .not e, m => by simp only [conv, eval_if_paren, eval, eval_conv I hI e]
  | .pre .neg e, m => by
    simp only [conv, eval_if_paren, eval, eval_pushSign I hI .neg (by decide), eval_conv I hI e]
  | .pre .pos e, m => by
    simp only [conv, eval_if_paren, eval, eval_pushSign I hI .pos (by decide), eval_conv I hI e]
  | .pow w a b, m => by simp only [conv, eval_if_paren, eval, eval_conv I hI a, eval_conv I hI b]
  | .paren e, _ => by simp only [conv, eval, eval_conv I hI e]
  | .ite c t r, m => by
    simp only [conv, eval_if_paren, eval, eval_conv I hI c, eval_conv I hI t, evalEls_conv I hI r]
  | .call f as, _ => by simp only [conv, eval, evalArgs_conv I hI as]
theorem evalEls_conv {V : Type} (I : Interp V) (hI : I.SignLaw) : ∀ (r : Els), evalEls I (convEls r) = evalEls I r
  | .els e => by simp only [convEls, evalEls, eval_conv I hI e]
  | .elif c t r => by simp only [convEls, evalEls, eval_conv I hI c, eval_conv I hI t, evalEls_conv I hI r]
theorem evalArgs_conv {V : Type} (I : Interp V) (hI : I.SignLaw) :
    ∀ (as : Args), evalArgs I (convArgs as) = evalArgs I as
  | .nil => by rw [convArgs]
  | .cons e r => by simp only [convArgs, evalArgs, eval_conv I hI e, evalArgs_conv I hI r]
end

mutual
theorem noParen_strip : ∀ (e : E), noParen (strip e) = true
  | .atom _ => by simp [strip, noParen]
  | .bin _ l r | .pow _ l r => by simp [strip, noParen, noParen_strip l, noParen_strip r]
  | .pre q e => by simp [strip, noParen, noParen_strip e]
  | .paren e => by simp [strip, noParen_strip e]
  | .ite c t r => by simp [strip, noParen, noParen_strip c, noParen_strip t, noParenEls_strip r]
  | .call f as => by simp [strip, noParen, noParenArgs_strip as]
theorem noParenEls_strip : ∀ (r : Els), noParenEls (stripEls r) = true
  | .els e => by simp [stripEls, noParenEls, noParen_strip e]
  | .elif c t r => by simp [stripEls, noParenEls, noParen_strip c, noParen_strip t, noParenEls_strip r]
theorem noParenArgs_strip : ∀ (as : Args), noParenArgs (stripArgs as) = true
  | .nil => by simp [stripArgs, noParenArgs]
  | .cons e r => by simp [stripArgs, noParenArgs, noParen_strip e, noParenArgs_strip r]
end

mutual
theorem strip_of_noParen : ∀ (e : E), noParen e = true → strip e = e
  | .atom _, _ => by simp [strip]
  | .bin _ l r, h | .pow _ l r, h => by
    simp only [noParen, Bool.and_eq_true] at h
    simp [strip, strip_of_noParen l h.1, strip_of_noParen r h.2]
  | .pre q e, h => by
    simp only [noParen] at h
    simp [strip, strip_of_noParen e h]
  | .paren e, h => by simp [noParen] at h
  | .ite c t r, h => by
    simp only [noParen, Bool.and_eq_true] at h
    simp [strip, strip_of_noParen c h.1.1, strip_of_noParen t h.1.2, stripEls_of_noParen r h.2]
  | .call f as, h => by
    simp only [noParen] at h
    simp [strip, stripArgs_of_noParen as h]
theorem stripEls_of_noParen : ∀ (r : Els), noParenEls r = true → stripEls r = r
  | .els e, h => by
    simp only [noParenEls] at h
    simp [stripEls, strip_of_noParen e h]
  | .elif c t r, h => by
    simp only [noParenEls, Bool.and_eq_true] at h
    simp [stripEls, strip_of_noParen c h.1.1, strip_of_noParen t h.1.2, stripEls_of_noParen r h.2]
theorem stripArgs_of_noParen : ∀ (as : Args), noParenArgs as = true → stripArgs as = as
  | .nil, _ => by simp [stripArgs]
  | .cons e r, h => by
    simp only [noParenArgs, Bool.and_eq_true] at h
    simp [stripArgs, strip_of_noParen e h.1, stripArgs_of_noParen r h.2]
end

/-- the printer for a table is injective up to `paren` nodes -/
theorem pr_injective (T : Tbl) (hT : TblOK T) (e e' : E) (h : pr T 0 e = pr T 0 e') : strip e = strip e' := by
  obtain ⟨f, h1, h2⟩ := ((parse_pr T hT e).and (parse_pr T hT e')).exists
  rw [h] at h1
  exact Option.some.inj (h1.symm.trans h2)

end PymocaVerif.ExprGrammar
