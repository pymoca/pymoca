import PymocaVerif.Lemmas.FlattenBasics
import PymocaVerif.Model.FlattenSpec
/-! The executable instantiation (`elemOf`, `membersF`, `memberEqsF`, `instF`) against the
    specification relations of `Model/FlattenSpec.lean`.  Each model function gets a characterisation
    of its success (`*_ok`); the inductions over the fuel and over the specification relations use
    only these. -/
namespace PymocaVerif.Flatten

section
variable {f : Nat} {lib : Lib} {p : Path}

@[simp] theorem elemOf_builtin (f : Nat) (lib : Lib) (b : String) :
    elemOf f lib (.builtin b) = .ok (some (b, [])) := by
  cases f <;> rfl

theorem elemOf_cls_ok {x : Option (String × List (List Mod))} :
    elemOf f lib (.cls p) = .ok x ↔
      ∃ f' d, f = f' + 1 ∧ lib.find p = some d ∧
        ((d.isShort = false ∧ x = none) ∨
         (d.isShort = true ∧ ∃ t m y, d.exts = [(t, m)] ∧ elemOf f' lib t = .ok y ∧
            x = y.map fun bm => (bm.1, bm.2 ++ [m]))) := by
  constructor
  -- by the function's own case analysis: a failing branch cannot equal `.ok x` (`cases h`), a
  -- succeeding one hands over its scrutinee equations as the witnesses (named as in the converse
  -- here, in `membersF_ok` and in `instF_ok`; found by assumption in the short ones);
  -- all the characterisations below go this way
  · generalize ht : Ty.cls p = t
    fun_cases elemOf f lib t <;> intro h <;> cases h <;> cases ht
    · rename_i hs _ _ hex hy hd
      exact ⟨_, _, rfl, hd, .inr ⟨hs, _, _, _, hex, hy, rfl⟩⟩
    · rename_i hs _ _ hex _ _ hy hd
      exact ⟨_, _, rfl, hd, .inr ⟨hs, _, _, _, hex, hy, rfl⟩⟩
    · rename_i hs hd
      exact ⟨_, _, rfl, hd, .inl ⟨Bool.eq_false_iff.mpr hs, rfl⟩⟩
  · rintro ⟨f', d, rfl, hd, ⟨hs, rfl⟩ | ⟨hs, t, m, y, hex, hy, rfl⟩⟩
    · simp only [elemOf, hd, hs, Bool.false_eq_true, if_false]
    · cases y <;> simp only [elemOf, hd, hs, hex, hy, if_true, Option.map]

theorem elemOf_some {t : Ty} {b : String} {ms : List (List Mod)}
    (h : elemOf f lib t = .ok (some (b, ms))) : IsElem lib t b := by
  fun_induction elemOf f lib t generalizing b ms <;> cases h
  · exact .builtin _
  · rename_i ih
    exact .short ‹_› ‹_› ‹_› (ih ‹_›)

theorem elemOf_of_isElem {t : Ty} {b : String} (hb : IsElem lib t b)
    {x : Option (String × List (List Mod))} (h : elemOf f lib t = .ok x) : ∃ ms, x = some (b, ms) := by
  induction hb generalizing f x with
  | builtin b =>
    rw [elemOf_builtin] at h
    cases h
    exact ⟨[], rfl⟩
  | short hd hs hex _ ih =>
    obtain ⟨f', d', _, hd', hx⟩ := elemOf_cls_ok.mp h
    rw [hd] at hd'
    cases hd'
    rcases hx with ⟨hs', _⟩ | ⟨_, t', m', y, hex', hy, rfl⟩
    · rw [hs] at hs'
      cases hs'
    · rw [hex] at hex'
      cases hex'
      obtain ⟨ms, rfl⟩ := ih hy
      exact ⟨_, rfl⟩

theorem elemOf_none {t : Ty} (h : elemOf f lib t = .ok none) (b : String) :
    ¬ IsElem lib t b := fun hb => by
  obtain ⟨_, hms⟩ := elemOf_of_isElem hb h
  cases hms

theorem IsElem.det {t : Ty} {b b' : String} (h : IsElem lib t b) (h' : IsElem lib t b') : b = b' := by
  induction h generalizing b' with
  | builtin b =>
    cases h'
    rfl
  | short hf _ he _ ih =>
    cases h' with
    | short hf' _ he' h'' =>
      rw [hf] at hf'
      cases hf'
      rw [he] at he'
      cases he'
      exact ih h''

theorem inheritStep_ok {elem : Ty → Except Err (Option (String × List (List Mod)))}
    {rec : Path → Except Err (List Member)} {tm : Ty × List Mod} {l : List Member} :
    inheritStep elem rec tm = .ok l ↔
      ∃ b ms, tm.1 = .cls b ∧ elem (.cls b) = .ok none ∧ rec b = .ok ms ∧
        firstBad (fun m => !Mod.headIn (ms.map (·.comp.name)) m) tm.2 = none ∧
        l = ms.map (fun x => { x with ext := x.ext ++ [tm.2] }) := by
  constructor
  · fun_cases inheritStep elem rec tm <;> intro h <;> cases h
    exact ⟨_, _, ‹_›, ‹_›, ‹_›, ‹_›, rfl⟩
  · rintro ⟨b, ms, hb, he, hr, hheads, rfl⟩
    simp only [inheritStep, hb, he, hr, hheads]

theorem membersF_ok {ms : List Member} :
    membersF f lib p = .ok ms ↔
      ∃ f' d inh, f = f' + 1 ∧ lib.find p = some d ∧
        mapE (inheritStep (elemOf f' lib) (membersF f' lib)) d.exts = .ok inh ∧
        ms = inh.flatten ++ d.comps.map (fun k => { comp := k, ext := [] }) := by
  constructor
  · fun_cases membersF f lib p <;> intro h <;> cases h
    rename_i hi hd
    exact ⟨_, _, _, rfl, hd, hi, rfl⟩
  · rintro ⟨f', d, inh, rfl, hd, hi, rfl⟩
    simp only [membersF, hd, hi]

theorem membersF_induct {motive : Path → Member → Prop}
    (own : ∀ {p d k}, lib.find p = some d → k ∈ d.comps → motive p { comp := k, ext := [] })
    (inh : ∀ {p d b mods x} {base : List Member}, lib.find p = some d → (Ty.cls b, mods) ∈ d.exts →
      (∀ y ∈ mods, Mod.headIn (base.map (·.comp.name)) y = true) → x ∈ base → motive b x →
      motive p { x with ext := x.ext ++ [mods] })
    {ms : List Member} (h : membersF f lib p = .ok ms) {m : Member} (hm : m ∈ ms) : motive p m := by
  induction f generalizing p ms m with
  | zero => cases h
  | succ f ih =>
    obtain ⟨f', d, inh', hf, hd, hi, rfl⟩ := membersF_ok.mp h
    cases hf
    rcases List.mem_append.mp hm with hm | hm
    · obtain ⟨l, hl, hml⟩ := List.mem_flatten.mp hm
      obtain ⟨⟨t, mods⟩, htm, hstep⟩ := mapE_mem_right hi hl
      obtain ⟨b, base, htb, _, hrec, hheads, rfl⟩ := inheritStep_ok.mp hstep
      obtain ⟨x, hx, rfl⟩ := List.mem_map.mp hml
      cases htb
      exact inh hd htm (firstBad_eq_none.mp hheads) hx (ih hrec hx)
    · obtain ⟨k, hk, rfl⟩ := List.mem_map.mp hm
      exact own hd hk

theorem members_sound {ms : List Member} (h : membersF f lib p = .ok ms)
    {m : Member} (hm : m ∈ ms) : MemberOf lib p m.comp :=
  membersF_induct (motive := fun p m => MemberOf lib p m.comp) .own
    (fun hd he _ _ ih => .inh hd he ih) h hm

theorem members_ext {ms : List Member} (h : membersF f lib p = .ok ms)
    {m : Member} (hm : m ∈ ms) {l : List Mod} (hl : l ∈ m.ext) : ExtClauseOf lib p l := by
  refine membersF_induct (motive := fun p m => ∀ l ∈ m.ext, ExtClauseOf lib p l) ?_ ?_ h hm l hl
  · intro p d k _ _ l hl
    cases hl
  · intro p d b mods x base hd he _ _ ih l hl
    rcases List.mem_append.mp hl with hl | hl
    · exact .inh hd he (ih l hl)
    · cases List.mem_singleton.mp hl
      exact .own hd he

theorem members_inherit {b : Path} {d : ClassDef} {mods : List Mod} {all : List Member}
    (hd : lib.find p = some d) (he : (Ty.cls b, mods) ∈ d.exts) (h : membersF f lib p = .ok all) :
    ∃ f' base, f = f' + 1 ∧ membersF f' lib b = .ok base ∧
      ∀ x ∈ base, ({ x with ext := x.ext ++ [mods] } : Member) ∈ all := by
  obtain ⟨f', d', inh, hf, hd', hi, rfl⟩ := membersF_ok.mp h
  rw [hd] at hd'
  cases hd'
  obtain ⟨l, hl, hstep⟩ := mapE_mem_left hi he
  obtain ⟨b', base, htb, _, hrec, _, rfl⟩ := inheritStep_ok.mp hstep
  cases htb
  exact ⟨f', base, hf, hrec, fun x hx =>
    List.mem_append_left _ (List.mem_flatten.mpr ⟨_, hl, List.mem_map.mpr ⟨x, hx, rfl⟩⟩)⟩

theorem members_complete {k : Comp} (hk : MemberOf lib p k) {ms : List Member}
    (h : membersF f lib p = .ok ms) : ∃ m ∈ ms, m.comp = k := by
  induction hk generalizing f ms with
  | own hd hk =>
    obtain ⟨f', d', inh, _, hd', _, rfl⟩ := membersF_ok.mp h
    rw [hd] at hd'
    cases hd'
    exact ⟨{ comp := _, ext := [] }, List.mem_append_right _ (List.mem_map.mpr ⟨_, hk, rfl⟩), rfl⟩
  | inh hd he _ ih =>
    obtain ⟨f', base, _, hrec, hall⟩ := members_inherit hd he h
    obtain ⟨x, hx, hxk⟩ := ih hrec
    exact ⟨_, hall x hx, hxk⟩

end

/-- modifications of an extends clause name members of the base (checked by `membersF`) -/
theorem members_ext_heads {f : Nat} {lib : Lib} {p : Path} {ms : List Member} (h : membersF f lib p = .ok ms)
    {m : Member} (hm : m ∈ ms) {l : List Mod} (hl : l ∈ m.ext) {x : Mod} (hx : x ∈ l) : x.path ≠ [] := by
  refine membersF_induct (motive := fun _ m => ∀ l ∈ m.ext, ∀ x ∈ l, x.path ≠ []) ?_ ?_ h hm l hl x hx
  · intro p d k _ _ l hl
    cases hl
  · intro p d b mods y base _ _ hheads _ ih l hl x hx hnil
    rcases List.mem_append.mp hl with hl | hl
    · exact ih l hl x hx hnil
    · cases List.mem_singleton.mp hl
      have := hheads x hx
      simp [Mod.headIn, hnil] at this

/-- input/output are kept exactly on paths of length one -/
def keepIO (n : Nat) (prefixes : List String) : List String :=
  if n = 1 then prefixes else prefixes.filter fun x => x != "input" && x != "output"

theorem stripIO_eq (P : Path) (pre : List String) : stripIO P pre = keepIO (P.length + 1) pre := by
  cases P <;> simp [stripIO, keepIO]

/-- the variable that member `k`, of builtin type `b`, becomes in an instance at `P` -/
def leafVar (P : Path) (k : Comp) (b : String) (dims : List Nat) (binds : List MMod) : Var :=
  { path := P ++ [k.name], ty := b, prefixes := stripIO P k.prefixes, dims := dims ++ k.dims, binds := binds }

theorem leafVar_prefixes (P : Path) (k : Comp) (b : String) (dims : List Nat) (binds : List MMod) :
    (leafVar P k b dims binds).prefixes = keepIO (leafVar P k b dims binds).path.length k.prefixes := by
  show stripIO P k.prefixes = keepIO (P ++ [k.name]).length k.prefixes
  rw [stripIO_eq, List.length_append]
  rfl

section
variable {f : Nat} {lib : Lib} {c P : Path} {outer : List MMod} {dims : List Nat} {r : List Var × List IEq}

theorem inheritEqStep_ok {rec : Path → Except Err (List Eqn)} {tm : Ty × List Mod} {l : List Eqn} :
    inheritEqStep rec tm = .ok l ↔ ∃ b, tm.1 = .cls b ∧ rec b = .ok l := by
  constructor
  · fun_cases inheritEqStep rec tm <;> intro h
    · cases h
    · exact ⟨_, ‹_›, h⟩
  · rintro ⟨b, hb, h⟩
    simp only [inheritEqStep, hb, h]

theorem memberEqsF_ok {p : Path} {es : List Eqn} :
    memberEqsF f lib p = .ok es ↔
      ∃ f' d inh, f = f' + 1 ∧ lib.find p = some d ∧
        mapE (inheritEqStep (memberEqsF f' lib)) d.exts = .ok inh ∧ es = inh.flatten ++ d.eqs := by
  constructor
  · fun_cases memberEqsF f lib p <;> intro h <;> cases h
    exact ⟨_, _, _, rfl, ‹_›, ‹_›, rfl⟩
  · rintro ⟨f', d, inh, rfl, hd, hi, rfl⟩
    simp only [memberEqsF, hd, hi]

theorem memberEqs_sound {p : Path} {es : List Eqn} (h : memberEqsF f lib p = .ok es)
    {e : Eqn} (he : e ∈ es) : MemberEq lib p e := by
  induction f generalizing p es e with
  | zero => cases h
  | succ f ih =>
    obtain ⟨f', d, inh, hf, hd, hi, rfl⟩ := memberEqsF_ok.mp h
    cases hf
    rcases List.mem_append.mp he with he | he
    · obtain ⟨l, hl, hel⟩ := List.mem_flatten.mp he
      obtain ⟨⟨t, mods⟩, htm, hstep⟩ := mapE_mem_right hi hl
      obtain ⟨b, htb, hrec⟩ := inheritEqStep_ok.mp hstep
      cases htb
      exact .inh hd htm (ih hrec hel)
    · exact .own hd he

theorem memberEqs_complete {p : Path} {e : Eqn} (he : MemberEq lib p e) {es : List Eqn}
    (h : memberEqsF f lib p = .ok es) : e ∈ es := by
  induction he generalizing f es with
  | own hd he =>
    obtain ⟨f', d', inh, _, hd', _, rfl⟩ := memberEqsF_ok.mp h
    rw [hd] at hd'
    cases hd'
    exact List.mem_append_right _ he
  | inh hd hx _ ih =>
    obtain ⟨f', d', inh, _, hd', hi, rfl⟩ := memberEqsF_ok.mp h
    rw [hd] at hd'
    cases hd'
    obtain ⟨l, hl, hstep⟩ := mapE_mem_left hi hx
    obtain ⟨b', htb, hrec⟩ := inheritEqStep_ok.mp hstep
    cases htb
    exact List.mem_append_left _ (List.mem_flatten.mpr ⟨l, hl, ih hrec⟩)

theorem typeMods_ok {tms : List (List Mod)} {tm : List MMod} (h : typeMods P tms = .ok tm) :
    firstBad (fun m : Mod => !m.value.isLiteral) tms.flatten = none ∧ tm = tms.flatten.map (Mod.here P) := by
  revert h
  fun_cases typeMods P tms <;> intro h <;> cases h
  exact ⟨‹_›, rfl⟩

theorem mkLeaf_ok {k : Comp} {b : String} {tms : List (List Mod)} {all : List MMod}
    (h : mkLeaf P k b tms all dims = .ok r) :
    ∃ tm, typeMods P tms = .ok tm ∧ firstBad (fun m => !okLeafPath m.path) (tm ++ all) = none ∧
      r = ([leafVar P k b dims (tm ++ all)], []) := by
  revert h
  fun_cases mkLeaf P k b tms all dims <;> intro h <;> cases h
  exact ⟨_, ‹_›, ‹_›, rfl⟩

theorem instStep_ok {elem : Ty → Except Err (Option (String × List (List Mod)))}
    {rec : Path → Path → List MMod → List Nat → Except Err (List Var × List IEq)}
    {m : Member} :
    instStep elem rec P outer dims m = .ok r ↔
      (∃ b tms, elem m.comp.ty = .ok (some (b, tms)) ∧
          mkLeaf P m.comp b tms (allMods P m.comp m.ext outer) dims = .ok r) ∨
      (∃ c', elem m.comp.ty = .ok none ∧ m.comp.ty = .cls c' ∧
          rec c' (P ++ [m.comp.name]) (allMods P m.comp m.ext outer) (dims ++ m.comp.dims) = .ok r) := by
  constructor
  · fun_cases instStep elem rec P outer dims m <;> intro h
    · cases h
    · exact .inl ⟨_, _, ‹_›, h⟩
    · cases h
    · exact .inr ⟨_, ‹_›, ‹_›, h⟩
  · rintro (⟨b, tms, he, h⟩ | ⟨c', he, hc, h⟩)
    · simp only [instStep, he, h]
    · rw [hc] at he
      simp only [instStep, hc, he, h]

theorem instF_ok :
    instF f lib c P outer dims = .ok r ↔
      ∃ f' ms eqs rs, f = f' + 1 ∧ membersF f' lib c = .ok ms ∧ dupName (ms.map (·.comp.name)) = none ∧
        firstBad (fun m => !MMod.headIn (ms.map (·.comp.name)) m) outer = none ∧
        memberEqsF f' lib c = .ok eqs ∧
        mapE (instStep (elemOf f' lib) (instF f' lib) P outer dims) ms = .ok rs ∧
        r = ((rs.map (·.1)).flatten,
             (rs.map (·.2)).flatten ++ eqs.map fun e => { scope := P, eq := e }) := by
  constructor
  · fun_cases instF f lib c P outer dims <;> intro h <;> cases h
    rename_i hn _ _ hms heqs ho hrs
    exact ⟨_, _, _, _, rfl, hms, hn, ho, heqs, hrs, rfl⟩
  · rintro ⟨f', ms, eqs, rs, rfl, hms, hn, ho, heqs, hrs, rfl⟩
    simp only [instF, hms, hn, ho, heqs, hrs]

theorem instTop_ok {t : Path} :
    instTop f lib t = .ok r ↔ elemOf f lib (.cls t) = .ok none ∧ instF f lib t [] [] [] = .ok r := by
  constructor
  · fun_cases instTop f lib t <;> intro h
    · cases h
    · cases h
    · exact ⟨‹_›, h⟩
  · rintro ⟨he, h⟩
    simp only [instTop, he, h]

theorem flattenF_ok {t : Path} {m : FlatModel} :
    flattenF f lib t = .ok m ↔
      ∃ r ri, instTop f lib t = .ok r ∧ instTop f (initView lib) t = .ok ri ∧ m = assemble r ri.2 := by
  constructor
  · fun_cases flattenF f lib t <;> intro h <;> cases h
    exact ⟨_, _, ‹_›, ‹_›, rfl⟩
  · rintro ⟨r, ri, hr, hri, rfl⟩
    simp only [flattenF, hr, hri]

/-- `InstVar lib c P outer dims v`: the instance of class `c` at prefix `P`, given the modifications
    `outer` and the dimensions `dims` of the enclosing levels, has the leaf `v`.  This is the walk of
    `instF` as a relation: no fuel, the members and elementary types by their specifications. -/
inductive InstVar (lib : Lib) : Path → Path → List MMod → List Nat → Var → Prop
  | leaf {c P : Path} {outer : List MMod} {dims : List Nat} {m : Member} {b : String} {tms : List (List Mod)} :
      MemberOf lib c m.comp → (∀ l ∈ m.ext, ExtClauseOf lib c l) → IsElem lib m.comp.ty b →
      (∀ x ∈ tms.flatten, x.value.isLiteral = true) →
      InstVar lib c P outer dims
        (leafVar P m.comp b dims (tms.flatten.map (Mod.here P) ++ allMods P m.comp m.ext outer))
  | sub {c c' P : Path} {outer : List MMod} {dims : List Nat} {m : Member} {v : Var} :
      MemberOf lib c m.comp → (∀ l ∈ m.ext, ExtClauseOf lib c l) → m.comp.ty = .cls c' →
      (∀ b, ¬ IsElem lib m.comp.ty b) →
      InstVar lib c' (P ++ [m.comp.name]) (allMods P m.comp m.ext outer) (dims ++ m.comp.dims) v →
      InstVar lib c P outer dims v

theorem instF_var (h : instF f lib c P outer dims = .ok r) {v : Var} (hv : v ∈ r.1) :
    InstVar lib c P outer dims v := by
  induction f generalizing c P outer dims r v with
  | zero => cases h
  | succ f ih =>
    obtain ⟨f', ms, eqs, rs, hf, hms, _, _, _, hrs, rfl⟩ := instF_ok.mp h
    cases hf
    obtain ⟨l, hl, hvl⟩ := List.mem_flatten.mp hv
    obtain ⟨r', hr', rfl⟩ := List.mem_map.mp hl
    obtain ⟨m, hm, hstep⟩ := mapE_mem_right hrs hr'
    have hmem := members_sound hms hm
    have hext := fun l => members_ext hms hm (l := l)
    rcases instStep_ok.mp hstep with ⟨b, tms, he, hleaf⟩ | ⟨c', he, hc, hrec⟩
    · obtain ⟨tm, htm, _, rfl⟩ := mkLeaf_ok hleaf
      obtain ⟨hlit, rfl⟩ := typeMods_ok htm
      cases List.mem_singleton.mp hvl
      exact .leaf hmem hext (elemOf_some he) (firstBad_eq_none.mp hlit)
    · exact .sub hmem hext hc (elemOf_none he) (ih hrec hvl)

theorem instF_member (h : instF f lib c P outer dims = .ok r) {k : Comp} (hk : MemberOf lib c k) :
    ∃ f' m r', m.comp = k ∧
      instStep (elemOf f' lib) (instF f' lib) P outer dims m = .ok r' ∧
      (∀ v ∈ r'.1, v ∈ r.1) ∧ ∀ e ∈ r'.2, e ∈ r.2 := by
  obtain ⟨f', ms, eqs, rs, _, hms, _, _, _, hrs, rfl⟩ := instF_ok.mp h
  obtain ⟨m, hm, hmk⟩ := members_complete hk hms
  obtain ⟨r', hr', hstep⟩ := mapE_mem_left hrs hm
  exact ⟨f', m, r', hmk, hstep,
    fun v hv => List.mem_flatten.mpr ⟨_, List.mem_map.mpr ⟨_, hr', rfl⟩, hv⟩,
    fun e he => List.mem_append_left _ (List.mem_flatten.mpr ⟨_, List.mem_map.mpr ⟨_, hr', rfl⟩, he⟩)⟩

theorem InstVar.is_leaf {v : Var} (h : InstVar lib c P outer dims v) :
    ∃ q k b ds, v.path = P ++ q ∧ Leaf lib c q k b ds ∧ v.ty = b ∧ v.dims = dims ++ ds ∧
      v.prefixes = keepIO v.path.length k.prefixes := by
  induction h with
  | @leaf _ P _ _ m b _ hmem _ helem _ =>
    exact ⟨[m.comp.name], m.comp, b, m.comp.dims, rfl, .leaf hmem helem, rfl, rfl, leafVar_prefixes ..⟩
  | @sub _ _ _ _ _ m _ hmem _ hc hne _ ih =>
    obtain ⟨q, k, b, ds, hp, hleaf, ht, hd, hpre⟩ := ih
    exact ⟨m.comp.name :: q, k, b, m.comp.dims ++ ds, by rw [hp, ← List.append_cons], .sub hmem hc hne hleaf, ht,
      by rw [hd, List.append_assoc], hpre⟩

theorem inst_vars_complete {c q : Path} {k : Comp} {b : String} {ds : List Nat}
    (hl : Leaf lib c q k b ds) (h : instF f lib c P outer dims = .ok r) :
    ∃ v ∈ r.1, v.path = P ++ q ∧ v.ty = b ∧ v.dims = dims ++ ds ∧
      v.prefixes = keepIO v.path.length k.prefixes := by
  induction hl generalizing f P outer dims r with
  | leaf hmem helem =>
    obtain ⟨f', m, r', rfl, hstep, hsub, _⟩ := instF_member h hmem
    rcases instStep_ok.mp hstep with ⟨b', tms, he, hleaf⟩ | ⟨c', he, _, _⟩
    · obtain ⟨tm, _, _, rfl⟩ := mkLeaf_ok hleaf
      exact ⟨_, hsub _ (List.mem_singleton.mpr rfl), rfl, (elemOf_some he).det helem, rfl,
        leafVar_prefixes ..⟩
    · exact absurd helem (elemOf_none he _)
  | sub hmem hc hne _ ih =>
    obtain ⟨f', m, r', rfl, hstep, hsub, _⟩ := instF_member h hmem
    rcases instStep_ok.mp hstep with ⟨b', tms, he, _⟩ | ⟨c'', he, hc', hrec⟩
    · exact absurd (elemOf_some he) (hne _)
    · rw [hc] at hc'
      cases hc'
      obtain ⟨v, hv, hp, ht, hd, hpre⟩ := ih hrec
      exact ⟨v, hsub v hv, by rw [hp, ← List.append_cons], ht, by rw [hd, List.append_assoc], hpre⟩

theorem inst_nodup (h : instF f lib c P outer dims = .ok r) : (r.1.map (·.path)).Nodup := by
  induction f generalizing c P outer dims r with
  | zero => cases h
  | succ f ih =>
    obtain ⟨f', ms, eqs, rs, hf, hms, hn, _, _, hrs, rfl⟩ := instF_ok.mp h
    cases hf
    have hblock : ∀ m r', instStep (elemOf f lib) (instF f lib) P outer dims m = .ok r' →
        (r'.1.map (·.path)).Nodup ∧ ∀ v ∈ r'.1, ∃ q, v.path = P ++ m.comp.name :: q := by
      intro m r' hstep
      rcases instStep_ok.mp hstep with ⟨b, tms, he, hleaf⟩ | ⟨c', he, hc, hrec⟩
      · obtain ⟨tm, _, _, rfl⟩ := mkLeaf_ok hleaf
        exact ⟨List.pairwise_singleton _ _, fun v hv => ⟨[], by cases List.mem_singleton.mp hv; rfl⟩⟩
      · refine ⟨ih hrec, fun v hv => ?_⟩
        obtain ⟨q, _, _, _, hp, _⟩ := (instF_var hrec hv).is_leaf
        exact ⟨q, by rw [hp, ← List.append_cons]⟩
    rw [List.Nodup, List.pairwise_map, List.pairwise_flatten, List.pairwise_map]
    constructor
    · intro l hl
      obtain ⟨r', hr', rfl⟩ := List.mem_map.mp hl
      obtain ⟨m, _, hstep⟩ := mapE_mem_right hrs hr'
      exact List.pairwise_map.mp (hblock m r' hstep).1
    · refine mapE_pairwise hrs (List.pairwise_map.mp (dupName_eq_none.mp hn)) ?_
      intro m m' r' r'' hne hstep hstep' v hv w hw hvw
      obtain ⟨q, hq⟩ := (hblock m r' hstep).2 v hv
      obtain ⟨q', hq'⟩ := (hblock m' r'' hstep').2 w hw
      rw [hq, hq'] at hvw
      exact hne (List.cons.inj (List.append_cancel_left hvw)).1

theorem inst_eqs_sound (h : instF f lib c P outer dims = .ok r) {e : IEq} (he : e ∈ r.2) :
    ∃ q c', e.scope = P ++ q ∧ InstAt lib c q c' ∧ MemberEq lib c' e.eq := by
  induction f generalizing c P outer dims r e with
  | zero => cases h
  | succ f ih =>
    obtain ⟨f', ms, eqs, rs, hf, hms, _, _, heqs, hrs, rfl⟩ := instF_ok.mp h
    cases hf
    rcases List.mem_append.mp he with he | he
    · obtain ⟨l, hl, hel⟩ := List.mem_flatten.mp he
      obtain ⟨r', hr', rfl⟩ := List.mem_map.mp hl
      obtain ⟨m, hm, hstep⟩ := mapE_mem_right hrs hr'
      rcases instStep_ok.mp hstep with ⟨b, tms, _, hleaf⟩ | ⟨c', hel', hc, hrec⟩
      · obtain ⟨tm, _, _, rfl⟩ := mkLeaf_ok hleaf
        cases hel
      · obtain ⟨q, c'', hs, hi, hme⟩ := ih hrec hel
        exact ⟨m.comp.name :: q, c'', by rw [hs, ← List.append_cons],
          .sub (members_sound hms hm) hc (elemOf_none hel') hi, hme⟩
    · obtain ⟨x, hx, rfl⟩ := List.mem_map.mp he
      exact ⟨[], c, (List.append_nil P).symm, .here c, memberEqs_sound heqs hx⟩

theorem inst_eqs_complete {c q c' : Path} (hi : InstAt lib c q c') {x : Eqn}
    (hx : MemberEq lib c' x) (h : instF f lib c P outer dims = .ok r) :
    ({ scope := P ++ q, eq := x } : IEq) ∈ r.2 := by
  induction hi generalizing f P outer dims r with
  | here c =>
    obtain ⟨f', ms, eqs, rs, _, _, _, _, heqs, _, rfl⟩ := instF_ok.mp h
    exact List.mem_append_right _ (List.mem_map.mpr ⟨x, memberEqs_complete hx heqs, by rw [List.append_nil]⟩)
  | sub hmem hc hne _ ih =>
    obtain ⟨f', m, r', rfl, hstep, _, hsub⟩ := instF_member h hmem
    rcases instStep_ok.mp hstep with ⟨b', tms, he, _⟩ | ⟨c'', he, hc', hrec⟩
    · exact absurd (elemOf_some he) (hne _)
    · rw [hc] at hc'
      cases hc'
      exact hsub _ (by rw [List.append_cons]; exact ih hx hrec)

theorem mem_instEqs_iff {t : Path}
    (h : instF f lib t [] [] [] = .ok r) (names : List Path) (fe : FEqn) :
    fe ∈ instEqs names r.2 ↔
      ∃ q c x, InstAt lib t q c ∧ MemberEq lib c x ∧ fe = renameEqn names q x := by
  constructor
  · intro hfe
    obtain ⟨e, he, rfl⟩ := List.mem_map.mp hfe
    obtain ⟨q, c, hs, hi, hme⟩ := inst_eqs_sound h he
    exact ⟨q, c, _, hi, hme, by rw [hs, List.nil_append]⟩
  · rintro ⟨q, c, x, hi, hme, rfl⟩
    exact List.mem_map.mpr ⟨_, inst_eqs_complete hi hme h, by rw [List.nil_append]⟩

@[simp] theorem finVar_path (names : List Path) (v : Var) : (finVar names v).path = v.path := rfl
@[simp] theorem finVar_ty (names : List Path) (v : Var) : (finVar names v).ty = v.ty := rfl
@[simp] theorem finVar_dims (names : List Path) (v : Var) : (finVar names v).dims = v.dims := rfl
@[simp] theorem finVar_prefixes (names : List Path) (v : Var) : (finVar names v).prefixes = v.prefixes := rfl

theorem assemble_paths (r : List Var × List IEq) (init : List IEq) :
    (assemble r init).vars.map (·.path) = r.1.map (·.path) := by
  simp only [assemble, List.map_map]
  rfl

end

/-! More fuel never changes a successful result, so "for every fuel" speaks of one model.  Each
    function's success is taken apart and put together again one fuel higher. -/
section
variable {f : Nat} {lib : Lib} {c P : Path} {outer : List MMod} {dims : List Nat} {r : List Var × List IEq}

theorem elemOf_mono {lib : Lib} : ∀ {f : Nat} {t : Ty} {x : Option (String × List (List Mod))},
    elemOf f lib t = .ok x → elemOf (f + 1) lib t = .ok x
  | _, .builtin b, x, h => by rwa [elemOf_builtin] at h ⊢
  | 0, .cls p, x, h => nomatch h
  | f + 1, .cls p, x, h => by
    obtain ⟨f', d, hf, hd, hx⟩ := elemOf_cls_ok.mp h
    cases hf
    refine elemOf_cls_ok.mpr ⟨f + 1, d, rfl, hd, hx.imp_right ?_⟩
    rintro ⟨hs, t, m, y, hex, hy, rfl⟩
    exact ⟨hs, t, m, y, hex, elemOf_mono hy, rfl⟩

theorem membersF_mono {p : Path} {ms : List Member} (h : membersF f lib p = .ok ms) :
    membersF (f + 1) lib p = .ok ms := by
  induction f generalizing p ms with
  | zero => cases h
  | succ f ih =>
    obtain ⟨f', d, inh, hf, hd, hi, rfl⟩ := membersF_ok.mp h
    cases hf
    refine membersF_ok.mpr ⟨f + 1, d, inh, rfl, hd, mapE_mono (fun tm _ l hl => ?_) hi, rfl⟩
    obtain ⟨b, base, htb, hel, hrec, hheads, rfl⟩ := inheritStep_ok.mp hl
    exact inheritStep_ok.mpr ⟨b, base, htb, elemOf_mono hel, ih hrec, hheads, rfl⟩

theorem memberEqsF_mono {p : Path} {es : List Eqn} (h : memberEqsF f lib p = .ok es) :
    memberEqsF (f + 1) lib p = .ok es := by
  induction f generalizing p es with
  | zero => cases h
  | succ f ih =>
    obtain ⟨f', d, inh, hf, hd, hi, rfl⟩ := memberEqsF_ok.mp h
    cases hf
    refine memberEqsF_ok.mpr ⟨f + 1, d, inh, rfl, hd, mapE_mono (fun tm _ l hl => ?_) hi, rfl⟩
    obtain ⟨b, htb, hrec⟩ := inheritEqStep_ok.mp hl
    exact inheritEqStep_ok.mpr ⟨b, htb, ih hrec⟩

theorem instF_mono (h : instF f lib c P outer dims = .ok r) : instF (f + 1) lib c P outer dims = .ok r := by
  induction f generalizing c P outer dims r with
  | zero => cases h
  | succ f ih =>
    obtain ⟨f', ms, eqs, rs, hf, hms, hn, ho, heqs, hrs, rfl⟩ := instF_ok.mp h
    cases hf
    refine instF_ok.mpr ⟨f + 1, ms, eqs, rs, rfl, membersF_mono hms, hn, ho, memberEqsF_mono heqs,
      mapE_mono (fun m _ r' hstep => ?_) hrs, rfl⟩
    rcases instStep_ok.mp hstep with ⟨b, tms, hel, hleaf⟩ | ⟨c', hel, hc, hrec⟩
    · exact instStep_ok.mpr (.inl ⟨b, tms, elemOf_mono hel, hleaf⟩)
    · exact instStep_ok.mpr (.inr ⟨c', elemOf_mono hel, hc, ih hrec⟩)

theorem instTop_mono {t : Path} (h : instTop f lib t = .ok r) :
    instTop (f + 1) lib t = .ok r :=
  instTop_ok.mpr ⟨elemOf_mono (instTop_ok.mp h).1, instF_mono (instTop_ok.mp h).2⟩

theorem flattenF_mono {t : Path} {m : FlatModel} (h : flattenF f lib t = .ok m) :
    flattenF (f + 1) lib t = .ok m := by
  obtain ⟨r, ri, hr, hri, rfl⟩ := flattenF_ok.mp h
  exact flattenF_ok.mpr ⟨r, ri, instTop_mono hr, instTop_mono hri, rfl⟩

end

/-! `initView` changes nothing the specification relations look at, except that `MemberEq` of the
    view is `MemberIEq` of the library. -/
section
variable {lib : Lib}

def ClassDef.init (d : ClassDef) : ClassDef := { d with eqs := d.ieqs }

theorem find_initView (lib : Lib) (p : Path) : (initView lib).find p = (lib.find p).map ClassDef.init := by
  induction lib with
  | nil => rfl
  | cons x xs ih =>
    obtain ⟨k, d⟩ := x
    simp only [initView, Lib.find, List.map_cons, List.lookup_cons] at ih ⊢
    cases hk : (p == k) with
    | true => simp [ClassDef.init]
    | false => simpa using ih

theorem find_initView_some {p : Path} {d : ClassDef} (h : (initView lib).find p = some d) :
    ∃ d0, lib.find p = some d0 ∧ d = d0.init := by
  rw [find_initView, Option.map_eq_some_iff] at h
  obtain ⟨d0, hd0, rfl⟩ := h
  exact ⟨d0, hd0, rfl⟩

theorem find_initView_init {p : Path} {d : ClassDef} (h : lib.find p = some d) :
    (initView lib).find p = some d.init := by
  rw [find_initView, h]
  rfl

theorem isElem_initView {t : Ty} {b : String} : IsElem (initView lib) t b ↔ IsElem lib t b := by
  constructor
  · intro h
    induction h with
    | builtin b => exact .builtin b
    | short hf hs he _ ih =>
      obtain ⟨d0, hd0, rfl⟩ := find_initView_some hf
      exact .short hd0 hs he ih
  · intro h
    induction h with
    | builtin b => exact .builtin b
    | short hf hs he _ ih =>
      exact .short (find_initView_init hf) hs he ih

theorem memberOf_initView {p : Path} {k : Comp} : MemberOf (initView lib) p k ↔ MemberOf lib p k := by
  constructor
  · intro h
    induction h with
    | own hf hk =>
      obtain ⟨d0, hd0, rfl⟩ := find_initView_some hf
      exact .own hd0 hk
    | inh hf he _ ih =>
      obtain ⟨d0, hd0, rfl⟩ := find_initView_some hf
      exact .inh hd0 he ih
  · intro h
    induction h with
    | own hf hk => exact .own (find_initView_init hf) hk
    | inh hf he _ ih => exact .inh (find_initView_init hf) he ih

theorem memberEq_initView {p : Path} {e : Eqn} : MemberEq (initView lib) p e ↔ MemberIEq lib p e := by
  constructor
  · intro h
    induction h with
    | own hf hk =>
      obtain ⟨d0, hd0, rfl⟩ := find_initView_some hf
      exact .own hd0 hk
    | inh hf he _ ih =>
      obtain ⟨d0, hd0, rfl⟩ := find_initView_some hf
      exact .inh hd0 he ih
  · intro h
    induction h with
    | own hf hk => exact .own (find_initView_init hf) hk
    | inh hf he _ ih => exact .inh (find_initView_init hf) he ih

theorem instAt_initView {c q c' : Path} : InstAt (initView lib) c q c' ↔ InstAt lib c q c' := by
  constructor
  · intro h
    induction h with
    | here c => exact .here c
    | sub hm hc hne _ ih =>
      exact .sub (memberOf_initView.mp hm) hc (fun b hb => hne b (isElem_initView.mpr hb)) ih
  · intro h
    induction h with
    | here c => exact .here c
    | sub hm hc hne _ ih =>
      exact .sub (memberOf_initView.mpr hm) hc (fun b hb => hne b (isElem_initView.mp hb)) ih

end

end PymocaVerif.Flatten
