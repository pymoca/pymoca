import PymocaVerif.Lemmas.ClassAsmClause
/-!
# One walk through a successful run of the specification

`elems_walk` / `sections_walk` / `class_ids` say what a successful run does to the frame of the class,
read three ways at once: the frame's objects stay pairwise different (`FrameOK`), its fields grow by
what the description says (`Grow`, `GrowS`), and the class dict takes up the nested definitions
(`NestedAdded`).
-/
namespace PymocaVerif.ClassAsm

theorem tick_leq (k : Ctr) : Leq k (tick k) := by
  unfold tick
  split
  · exact ⟨Nat.le_succ _, Nat.le_refl _⟩
  · exact Leq.refl k

theorem ticks_leq (n : Nat) (k : Ctr) : Leq k (ticks n k) := by
  induction n generalizing k with
  | zero => exact Leq.refl k
  | succ n ih => exact Leq.trans (tick_leq k) (ih _)

theorem extEvsCtr_leq (evs : List ExtEv) (k : Ctr) : Leq k (extEvsCtr evs k) := by
  induction evs generalizing k with
  | nil => exact Leq.refl k
  | cons e t ih =>
    refine Leq.trans ?_ (ih _)
    cases e with
    | m => exact tick_leq k
    | d _ _ _ => exact ⟨Nat.le_add_right _ _, Nat.le_add_right _ _⟩

/-! ## The specification as a sequence of steps

Every clause of `specClass` / `specElems` / `specSections` / `specFile` / `importsFold` that can fail
is a first step followed by the rest; `bind_eq_ok` then reads a successful run backwards. -/

theorem bind_eq_ok {ε α β} {x : Except ε α} {g : α → Except ε β} {r : β} :
    x.bind g = .ok r ↔ ∃ a, x = .ok a ∧ g a = .ok r := by
  cases x with
  | error e => exact ⟨fun h => (nomatch h), fun ⟨_, h, _⟩ => (nomatch h)⟩
  | ok a =>
    refine ⟨fun h => ⟨a, rfl, h⟩, fun ⟨_, h, hg⟩ => ?_⟩
    cases h
    exact hg

theorem specElems_comp (c : Clause) (t : Elems) (f : Frame) (k : Ctr) :
    specElems (.comp c t) f k = (specClause c f k).bind fun p => specElems t p.1 p.2 := by
  simp only [specElems]
  cases specClause c f k <;> rfl

theorem specElems_imp (i : ImpSrc) (t : Elems) (f : Frame) (k : Ctr) :
    specElems (.imp i t) f k =
      (addImport f.info.imports i).bind fun imps => specElems t { f with info := { f.info with imports := imps } } k := by
  simp only [specElems]
  cases addImport f.info.imports i <;> rfl

theorem specElems_cls (c : ClassSrc) (t : Elems) (f : Frame) (k : Ctr) :
    specElems (.cls c t) f k = (specClass c k).bind fun p => specElems t (f.attach p.1) p.2 := by
  simp only [specElems]
  cases specClass c k <;> rfl

theorem specSections_elems (v : Vis) (es : Elems) (t : Sections) (f : Frame) (k : Ctr) :
    specSections (.elems v es t) f k =
      (specElems es f k).bind fun p => specSections t { p.1 with closed := p.1.closed ++ [some v] } p.2 := by
  simp only [specSections]
  cases specElems es f k <;> rfl

/-- The tree of a class whose composition was walked up to frame `f`. -/
def Frame.classAst (f : Frame) (h : ClassHdr) : ClassAst :=
  .mk { (f.composition h.annotation).info with name := some h.name, comment := h.comment } f.classes

theorem specClass_mk (h : ClassHdr) (first : Elems) (rest : Sections) (k : Ctr) :
    specClass (.mk h first rest) k =
      (specElems first (Frame.new h.kind h.partial_ h.encapsulated) k).bind fun p =>
        (specSections rest { p.1 with closed := p.1.closed ++ [none] } p.2).bind fun q =>
          .ok (q.1.classAst h, ticks h.annTicks q.2) := by
  simp only [specClass]
  cases specElems first (Frame.new h.kind h.partial_ h.encapsulated) k with
  | error e => rfl
  | ok p =>
    simp only [Except.bind]
    cases specSections rest { p.1 with closed := p.1.closed ++ [none] } p.2 <;> rfl

theorem specClass_ok {h : ClassHdr} {first : Elems} {rest : Sections} {k k' : Ctr} {a : ClassAst} :
    specClass (.mk h first rest) k = .ok (a, k') ↔
      ∃ f1 k1, specElems first (Frame.new h.kind h.partial_ h.encapsulated) k = .ok (f1, k1) ∧
      ∃ f2 k2, specSections rest { f1 with closed := f1.closed ++ [none] } k1 = .ok (f2, k2) ∧
      a = f2.classAst h ∧ k' = ticks h.annTicks k2 := by
  simp only [specClass_mk, bind_eq_ok, Prod.exists, Except.ok.injEq, Prod.mk.injEq, eq_comm (a := a),
    eq_comm (a := k')]

theorem specFile_cons (fin : Bool) (c : ClassSrc) (t : List (Bool × ClassSrc)) (acc : List ClassAst) (k : Ctr) :
    specFile ((fin, c) :: t) acc k = (specClass c k).bind fun p => specFile t (dictSet acc (setFinal fin p.1)) p.2 := by
  simp only [specFile]
  cases specClass c k <;> rfl

theorem importsFold_single (i : ImpSrc) (imps : List (String × ImportVal)) : importsFold [i] imps = addImport imps i := by
  simp only [importsFold]
  cases addImport imps i <;> rfl

theorem importsFold_append (a b : List ImpSrc) (i0 : List (String × ImportVal)) :
    importsFold (a ++ b) i0 = (importsFold a i0).bind (importsFold b) := by
  induction a generalizing i0 with
  | nil => rfl
  | cons x t ih =>
    simp only [List.cons_append, importsFold]
    cases addImport i0 x with
    | error e => rfl
    | ok i1 => exact ih i1

@[simp] theorem deepSymsList_nil : deepSymsList [] = [] := by simp [deepSymsList]
@[simp] theorem deepSymsList_cons (c : ClassAst) (t : List ClassAst) :
    deepSymsList (c :: t) = deepSyms c ++ deepSymsList t := by simp [deepSymsList]
theorem deepSyms_mk (i : ClassInfo) (cs : List ClassAst) : deepSyms (.mk i cs) = deepSymsList cs ++ i.symbols := by
  simp [deepSyms]

/-- Entering a class in the dict drops at most the symbols of the entry it replaces: up to order, the
    dict's symbols are those of the new class and some of the old ones. -/
theorem deepSymsList_dictSet (l : List ClassAst) (c : ClassAst) :
    ∃ l', l'.Sublist (deepSymsList l) ∧ (deepSymsList (dictSet l c)).Perm (deepSyms c ++ l') := by
  induction l with
  | nil => exact ⟨[], .slnil, .of_eq (deepSymsList_cons c [])⟩
  | cons x t ih =>
    obtain ⟨l', hs, hp⟩ := ih
    simp only [dictSet]
    split
    · simp only [deepSymsList_cons]
      exact ⟨deepSymsList t, List.sublist_append_right .., .refl _⟩
    · simp only [deepSymsList_cons]
      exact ⟨deepSyms x ++ l', hs.append_left _, (hp.append_left _).trans (List.perm_append_comm_assoc ..)⟩

/-- All symbols held by a class under construction: those of its finished nested classes and its own. -/
def frameSyms (f : Frame) : List Sym := deepSymsList f.classes ++ f.info.symbols

/-- The invariant of the walk through a class entered at counter `lo`: no two symbols the frame holds
    share an object, and all their numbers and tags were handed out since `lo`. -/
def FrameOK (lo : Ctr) (f : Frame) (k : Ctr) : Prop :=
  (frameSyms f).Pairwise Sym.Distinct ∧ ∀ y ∈ frameSyms f, y.Between lo k

theorem FrameOK.empty {f : Frame} {lo k : Ctr} (hc : f.classes = []) (hs : f.info.symbols = []) : FrameOK lo f k := by
  unfold FrameOK frameSyms
  rw [hc, hs, deepSymsList_nil]
  exact ⟨.nil, List.forall_mem_nil _⟩

theorem FrameOK.attach {lo k k1 : Ctr} {f : Frame} {a : ClassAst} (hf : FrameOK lo f k) (hlo : Leq lo k) (hk : Leq k k1)
    (ha : (deepSyms a).Pairwise Sym.Distinct ∧ ∀ y ∈ deepSyms a, y.Between k k1) : FrameOK lo (f.attach a) k1 := by
  obtain ⟨l', hs, hp⟩ := deepSymsList_dictSet f.classes a
  have hs : (l' ++ f.info.symbols).Sublist (frameSyms f) := hs.append_right _
  have hp : (frameSyms (f.attach a)).Perm (deepSyms a ++ (l' ++ f.info.symbols)) :=
    (hp.append_right _).trans (.of_eq (List.append_assoc ..))
  constructor
  · rw [hp.pairwise_iff Sym.Distinct.symm, List.pairwise_append]
    exact ⟨ha.1, hf.1.sublist hs, fun x hx y hy => ((hf.2 y (hs.subset hy)).distinct (ha.2 x hx) (Leq.refl k)).1.symm⟩
  · intro y hy
    rcases List.mem_append.mp (hp.mem_iff.mp hy) with hy | hy
    · exact (ha.2 y hy).mono hlo (Leq.refl _)
    · exact (hf.2 y (hs.subset hy)).mono (Leq.refl _) hk

theorem FrameOK.mono {lo k k1 : Ctr} {f : Frame} (hf : FrameOK lo f k) (hk : Leq k k1) : FrameOK lo f k1 :=
  ⟨hf.1, fun y hy => (hf.2 y hy).mono (Leq.refl _) hk⟩

theorem FrameOK.clause {lo k : Ctr} {f : Frame} (c : Clause) (hf : FrameOK lo f k) (hlo : Leq lo k) :
    FrameOK lo { f with info := { f.info with symbols := f.info.symbols ++ clauseSyms c f.closed.length k } } (clauseCtr c k) := by
  have hg := clauseSyms_ids c f.closed.length k
  have hk := clauseCtr_leq c k
  unfold FrameOK frameSyms at *
  simp only [← List.append_assoc]
  constructor
  · rw [List.pairwise_append]
    exact ⟨hf.1, hg.1.imp And.left, fun x hx y hy => ((hf.2 x hx).distinct (hg.2 y hy) (Leq.refl k)).1⟩
  · exact List.forall_mem_append.mpr
      ⟨fun y hy => (hf.2 y hy).mono (Leq.refl _) hk, fun y hy => (hg.2 y hy).mono hlo (Leq.refl _)⟩

theorem deepSyms_specShort (s : ShortSrc) : deepSyms (specShort s) = [] := by
  simp [specShort, deepSyms_mk, Frame.addExt, Frame.new, ClassInfo.new]

theorem FrameOK.classAst {lo k : Ctr} {f : Frame} (hf : FrameOK lo f k) (h : ClassHdr) :
    (deepSyms (f.classAst h)).Pairwise Sym.Distinct ∧ ∀ y ∈ deepSyms (f.classAst h), y.Between lo k := by
  have hs : deepSyms (f.classAst h) =
      deepSymsList f.classes ++ f.info.symbols.map fun y => { y with vis := visOf f.closed y.sec } := deepSyms_mk ..
  -- `exitComposition` writes only `vis`: both facts split along the append and pass through the map
  rw [hs]
  simp only [FrameOK, frameSyms, List.pairwise_append, List.forall_mem_append, List.pairwise_map,
    List.forall_mem_map] at hf ⊢
  exact hf

/-- The fields of a class that elements never touch. -/
def ClassInfo.rest (i : ClassInfo) : ClassInfo := { i with symbols := [], extends_ := [], imports := [] }

def extOf (sec : Nat) (e : ExtSrc) : Ext := ⟨e.path, e.args, .priv, sec⟩

theorem view_name (y : Sym) : y.view.name = y.name := rfl

theorem flatMap_views_names (l : List Clause) : (l.flatMap Clause.views).map (·.name) = l.flatMap Clause.names := by
  induction l with
  | nil => rfl
  | cons x t ih => simp [List.flatMap_cons, ih, Clause.views, Clause.names, Function.comp_def]

theorem names_of_views {S : List Sym} {l : List Clause} (h : S.map Sym.view = l.flatMap Clause.views) :
    S.map (·.name) = l.flatMap Clause.names := by
  rw [← flatMap_views_names, ← h, List.map_map]
  rfl

/-- The symbols appended to `l` on the way from counter `k` to `k'`: their views and element lists,
    numbered increasingly within the interval.  The `syms` fields of `Grow` and `GrowS` are this
    proposition written out (`Grow.symsAdded`, `GrowS.symsAdded`). -/
def SymsAdded (l l' : List Sym) (k k' : Ctr) (V : List SymView) (X : List Nat) : Prop :=
  ∃ S, l' = l ++ S ∧ S.map Sym.view = V ∧ S.map (·.sec) = X ∧
    S.Pairwise (fun a b => a.order < b.order) ∧ ∀ y ∈ S, k.symCount ≤ y.order ∧ y.order < k'.symCount

theorem SymsAdded.refl (l : List Sym) (k k' : Ctr) : SymsAdded l l k k' [] [] :=
  ⟨[], (List.append_nil l).symm, rfl, rfl, .nil, List.forall_mem_nil _⟩

theorem SymsAdded.trans {l l1 l2 : List Sym} {k k1 k2 : Ctr} {V1 V2 : List SymView} {X1 X2 : List Nat}
    (h1 : SymsAdded l l1 k k1 V1 X1) (h2 : SymsAdded l1 l2 k1 k2 V2 X2) (hk : Leq k k1) (hk' : Leq k1 k2) :
    SymsAdded l l2 k k2 (V1 ++ V2) (X1 ++ X2) := by
  obtain ⟨S1, rfl, rfl, rfl, p1, b1⟩ := h1
  obtain ⟨S2, rfl, rfl, rfl, p2, b2⟩ := h2
  exact ⟨S1 ++ S2, List.append_assoc .., List.map_append, List.map_append,
    List.pairwise_append.mpr ⟨p1, p2, fun a ha b hb => Nat.lt_of_lt_of_le (b1 a ha).2 (b2 b hb).1⟩,
    List.forall_mem_append.mpr ⟨fun y hy => ⟨(b1 y hy).1, Nat.lt_of_lt_of_le (b1 y hy).2 hk'.1⟩,
      fun y hy => ⟨Nat.le_trans hk.1 (b2 y hy).1, (b2 y hy).2⟩⟩⟩

theorem SymsAdded.clause (l : List Sym) (c : Clause) (sec : Nat) (k : Ctr) :
    SymsAdded l (l ++ clauseSyms c sec k) k (clauseCtr c k) c.views (List.replicate c.decls.length sec) :=
  have hg := clauseSyms_ids c sec k
  ⟨_, rfl, clauseSyms_views c sec k, clauseSyms_sec c sec k, hg.1.imp And.right,
    fun y hy => ⟨(hg.2 y hy).1, (hg.2 y hy).2.1⟩⟩

/-- What a list of elements adds to the frame of its class: the closed lists, the section lists and the
    header fields stay; symbols, extends clauses and imports grow by exactly the list's own clauses,
    in order, with declaration numbers from the counter interval (nested classes add none of these). -/
structure Grow (es : Elems) (f : Frame) (k : Ctr) (f' : Frame) (k' : Ctr) : Prop where
  closed : f'.closed = f.closed
  eqSecs : f'.eqSecs = f.eqSecs
  algSecs : f'.algSecs = f.algSecs
  rest : f'.info.rest = f.info.rest
  leq : Leq k k'
  syms : ∃ S, f'.info.symbols = f.info.symbols ++ S ∧ S.map Sym.view = es.clauses.flatMap Clause.views ∧
    S.map (·.sec) = List.replicate es.declCount f.closed.length ∧
    S.Pairwise (fun a b => a.order < b.order) ∧ ∀ y ∈ S, k.symCount ≤ y.order ∧ y.order < k'.symCount
  nodup : (f.info.symbols.map (·.name)).Nodup → (f'.info.symbols.map (·.name)).Nodup
  exts : f'.info.extends_ = f.info.extends_ ++ es.exts.map (extOf f.closed.length)
  imps : importsFold es.imps f.info.imports = .ok f'.info.imports

theorem Elems.declCount_comp (c : Clause) (t : Elems) : (Elems.comp c t).declCount = c.decls.length + t.declCount := by
  simp [Elems.declCount, Elems.clauses]

section
variable {t : Elems} {f f' : Frame} {k k' : Ctr}

theorem Grow.symsAdded (g : Grow t f k f' k') :
    SymsAdded f.info.symbols f'.info.symbols k k' (t.clauses.flatMap Clause.views)
      (List.replicate t.declCount f.closed.length) := g.syms

theorem Grow.nil (f : Frame) (k : Ctr) : Grow .nil f k f k :=
  ⟨rfl, rfl, rfl, rfl, Leq.refl k, SymsAdded.refl .., id, (List.append_nil _).symm, rfl⟩

theorem Grow.comp {c : Clause} (hn1 : c.names.Nodup)
    (hn2 : ∀ n ∈ c.names, n ∉ f.info.symbols.map (·.name))
    (g : Grow t { f with info := { f.info with symbols := f.info.symbols ++ clauseSyms c f.closed.length k } }
      (clauseCtr c k) f' k') : Grow (.comp c t) f k f' k' := by
  have hk := clauseCtr_leq c k
  refine { g with leq := hk.trans g.leq, syms := ?_, nodup := fun hnd => g.nodup ?_ }
  · show SymsAdded _ _ _ _ _ (List.replicate (Elems.comp c t).declCount _)
    rw [Elems.declCount_comp, ← List.replicate_append_replicate]
    exact (SymsAdded.clause f.info.symbols c f.closed.length k).trans g.symsAdded hk g.leq
  · show (List.map _ (_ ++ _)).Nodup
    rw [List.map_append, clauseSyms_names]
    exact List.nodup_append.mpr ⟨hnd, hn1, fun a ha b hb e => hn2 b hb (e ▸ ha)⟩

/-- Growth seen from an earlier counter state: extends clauses and nested classes move the counter and
    add no component of their own, so the rest's record serves for the whole list. -/
theorem Grow.mono {es : Elems} {k1 : Ctr} (g : Grow es f k1 f' k') (hk : Leq k k1) : Grow es f k f' k' :=
  { g with leq := hk.trans g.leq, syms := (SymsAdded.refl _ k k1).trans g.symsAdded hk g.leq }

end

def Sections.eqSecList : Sections → List (Bool × List String)
  | .nil => []
  | .elems _ _ t => t.eqSecList
  | .eqs i xs t => (i, xs) :: t.eqSecList
  | .algs _ _ t => t.eqSecList

def Sections.algSecList : Sections → List (Bool × List String)
  | .nil => []
  | .elems _ _ t => t.algSecList
  | .eqs _ _ t => t.algSecList
  | .algs i xs t => (i, xs) :: t.algSecList

/-- `Grow` for the sections after the leading element list: every `public` / `protected` section
    also closes an element list, so symbols and extends clauses carry the index of their own list. -/
structure GrowS (ss : Sections) (f : Frame) (k : Ctr) (f' : Frame) (k' : Ctr) : Prop where
  closed : f'.closed = f.closed ++ ss.labels
  eqSecs : f'.eqSecs = f.eqSecs ++ ss.eqSecList
  algSecs : f'.algSecs = f.algSecs ++ ss.algSecList
  rest : f'.info.rest = f.info.rest
  leq : Leq k k'
  syms : ∃ S, f'.info.symbols = f.info.symbols ++ S ∧ S.map Sym.view = ss.clauses.flatMap Clause.views ∧
    S.map (·.sec) = ss.secs f.closed.length ∧
    S.Pairwise (fun a b => a.order < b.order) ∧ ∀ y ∈ S, k.symCount ≤ y.order ∧ y.order < k'.symCount
  nodup : (f.info.symbols.map (·.name)).Nodup → (f'.info.symbols.map (·.name)).Nodup
  exts : ∃ E, f'.info.extends_ = f.info.extends_ ++ E ∧
    E.map (fun e => (e.path, e.args)) = ss.exts.map (fun e => (e.path, e.args)) ∧
    E.map (·.sec) = ss.extSecs f.closed.length
  imps : importsFold ss.imps f.info.imports = .ok f'.info.imports

section
variable {t : Sections} {f f' : Frame} {k k' : Ctr}

theorem GrowS.symsAdded (g : GrowS t f k f' k') :
    SymsAdded f.info.symbols f'.info.symbols k k' (t.clauses.flatMap Clause.views) (t.secs f.closed.length) := g.syms

theorem GrowS.nil (f : Frame) (k : Ctr) : GrowS .nil f k f k :=
  ⟨(List.append_nil _).symm, (List.append_nil _).symm, (List.append_nil _).symm, rfl, Leq.refl k, SymsAdded.refl ..,
    id, ⟨[], (List.append_nil _).symm, rfl, rfl⟩, rfl⟩

/-- A list of elements followed, after its element list is closed with label `lb`, by sections: the
    shape of `Sections.elems` (`lb = some v`) and of a whole class body (`lb = none`). -/
theorem Grow.andThen {lb : Option Vis} {es : Elems} {f1 : Frame} {k1 : Ctr} (g1 : Grow es f k f1 k1)
    (g2 : GrowS t { f1 with closed := f1.closed ++ [lb] } k1 f' k') :
    f'.closed = f.closed ++ lb :: t.labels ∧
    SymsAdded f.info.symbols f'.info.symbols k k' ((es.clauses ++ t.clauses).flatMap Clause.views)
      (List.replicate es.declCount f.closed.length ++ t.secs (f.closed.length + 1)) ∧
    (∃ E, f'.info.extends_ = f.info.extends_ ++ E ∧
      E.map (fun e => (e.path, e.args)) = (es.exts ++ t.exts).map (fun e => (e.path, e.args)) ∧
      E.map (·.sec) = List.replicate es.exts.length f.closed.length ++ t.extSecs (f.closed.length + 1)) ∧
    importsFold (es.imps ++ t.imps) f.info.imports = .ok f'.info.imports := by
  obtain ⟨E2, hE2, hp2, hx2⟩ := g2.exts
  have hlen : ({ f1 with closed := f1.closed ++ [lb] } : Frame).closed.length = f.closed.length + 1 := by
    rw [← g1.closed]
    exact List.length_append
  rw [hlen] at hx2
  refine ⟨?_, ?_, ⟨es.exts.map (extOf f.closed.length) ++ E2, ?_, ?_, ?_⟩, ?_⟩
  · rw [← g1.closed]
    exact g2.closed.trans (List.append_assoc ..)
  · rw [List.flatMap_append, ← hlen]
    exact g1.symsAdded.trans g2.symsAdded g1.leq g2.leq
  · rw [← List.append_assoc, ← g1.exts]
    exact hE2
  · rw [List.map_append, List.map_append, hp2, List.map_map]
    rfl
  · rw [List.map_append, List.map_map, hx2]
    exact congrArg (· ++ _) List.map_const'
  · rw [importsFold_append, g1.imps]
    exact g2.imps

theorem GrowS.elems {v : Vis} {es : Elems} {f1 : Frame} {k1 : Ctr} (g1 : Grow es f k f1 k1)
    (g2 : GrowS t { f1 with closed := f1.closed ++ [some v] } k1 f' k') : GrowS (.elems v es t) f k f' k' :=
  have ⟨hc, hs, he, hi⟩ := g1.andThen g2
  ⟨hc, g1.eqSecs ▸ g2.eqSecs, g1.algSecs ▸ g2.algSecs, g2.rest.trans g1.rest, g1.leq.trans g2.leq, hs,
    g2.nodup ∘ g1.nodup, he, hi⟩

end

/-- `ast` is what the specification gives for the nested definition `src` (at some counter state). -/
def NestedSpec (src : ClassSrc ⊕ ShortSrc) (ast : ClassAst) : Prop :=
  match src with
  | .inl c => ∃ k k', specClass c k = .ok (ast, k')
  | .inr s => ast = specShort s

/-- Pointwise relation between the nested definitions and trees (own definition: core has no
    append lemma for `List.Forall₂`). -/
inductive NestedAll : List (ClassSrc ⊕ ShortSrc) → List ClassAst → Prop
  | nil : NestedAll [] []
  | cons {s a ss as} : NestedSpec s a → NestedAll ss as → NestedAll (s :: ss) (a :: as)

theorem NestedAll.append {s1 s2 a1 a2} (h1 : NestedAll s1 a1) (h2 : NestedAll s2 a2) : NestedAll (s1 ++ s2) (a1 ++ a2) := by
  induction h1 with
  | nil => simpa using h2
  | cons h _ ih => exact .cons h ih

/-- The class dict `cs'` is `cs` after the trees of the nested definitions `N` were entered in order. -/
def NestedAdded (N : List (ClassSrc ⊕ ShortSrc)) (cs cs' : List ClassAst) : Prop :=
  ∃ As, NestedAll N As ∧ cs' = As.foldl dictSet cs

theorem NestedAdded.refl (cs : List ClassAst) : NestedAdded [] cs cs := ⟨[], .nil, rfl⟩

theorem NestedAdded.cons {s : ClassSrc ⊕ ShortSrc} {a : ClassAst} {N : List (ClassSrc ⊕ ShortSrc)}
    {cs cs' : List ClassAst} (hs : NestedSpec s a) (h : NestedAdded N (dictSet cs a) cs') : NestedAdded (s :: N) cs cs' :=
  let ⟨As, hA, e⟩ := h
  ⟨a :: As, .cons hs hA, e⟩

theorem NestedAdded.trans {N1 N2 : List (ClassSrc ⊕ ShortSrc)} {cs cs1 cs2 : List ClassAst}
    (h1 : NestedAdded N1 cs cs1) (h2 : NestedAdded N2 cs1 cs2) : NestedAdded (N1 ++ N2) cs cs2 := by
  obtain ⟨A1, hA1, rfl⟩ := h1
  obtain ⟨A2, hA2, rfl⟩ := h2
  exact ⟨A1 ++ A2, hA1.append hA2, List.foldl_append.symm⟩

mutual
theorem class_ids (c : ClassSrc) {k : Ctr} {a : ClassAst} {k' : Ctr} (h : specClass c k = .ok (a, k')) :
    Leq k k' ∧ (deepSyms a).Pairwise Sym.Distinct ∧ ∀ y ∈ deepSyms a, y.Between k k' := by
  match c with
  | .mk hd first ss =>
    obtain ⟨f1, k1, h1, f2, k2, h2, rfl, rfl⟩ := specClass_ok.mp h
    obtain ⟨ok1, g1, _⟩ := elems_walk first h1
    obtain ⟨ok2, g2, _⟩ := sections_walk ss h2
    have l3 := ticks_leq hd.annTicks k2
    exact ⟨g1.leq.trans (g2.leq.trans l3), ((ok2 k g1.leq (ok1 k (Leq.refl k) (.empty rfl rfl))).mono l3).classAst hd⟩
theorem elems_walk (es : Elems) {f : Frame} {k : Ctr} {f' : Frame} {k' : Ctr} (h : specElems es f k = .ok (f', k')) :
    (∀ lo, Leq lo k → FrameOK lo f k → FrameOK lo f' k') ∧
    Grow es f k f' k' ∧ NestedAdded es.nested f.classes f'.classes := by
  match es with
  | .nil =>
    cases h
    exact ⟨fun _ _ hf => hf, .nil f k, .refl _⟩
  | .comp c t =>
    rw [specElems_comp, bind_eq_ok] at h
    obtain ⟨⟨f1, k1⟩, h1, h2⟩ := h
    obtain ⟨hn1, hn2, rfl, rfl⟩ := specClause_ok.mp h1
    obtain ⟨ok, grow, nested⟩ := elems_walk t h2
    exact ⟨fun lo hlo hf => ok lo (hlo.trans (clauseCtr_leq c k)) (hf.clause c hlo), .comp hn1 hn2 grow, nested⟩
  | .ext e t =>
    have hk := extEvsCtr_leq e.evs k
    obtain ⟨ok, grow, nested⟩ := elems_walk t (f := f.addExt e.path e.args) h
    exact ⟨fun lo hlo hf => ok lo (hlo.trans hk) (hf.mono hk),
      { grow.mono hk with exts := grow.exts.trans (List.append_assoc ..) }, nested⟩
  | .imp i t =>
    rw [specElems_imp, bind_eq_ok] at h
    obtain ⟨imps, h1, h2⟩ := h
    obtain ⟨ok, grow, nested⟩ := elems_walk t h2
    refine ⟨ok, { grow with imps := ?_ }, nested⟩
    simp only [Elems.imps, importsFold, h1]
    exact grow.imps
  | .cls c t =>
    rw [specElems_cls, bind_eq_ok] at h
    obtain ⟨⟨a, k1⟩, h1, h2⟩ := h
    obtain ⟨l1, o1⟩ := class_ids c h1
    obtain ⟨ok, grow, nested⟩ := elems_walk t h2
    exact ⟨fun lo hlo hf => ok lo (hlo.trans l1) (hf.attach hlo l1 o1), { grow.mono l1 with }, .cons ⟨k, k1, h1⟩ nested⟩
  | .short s t =>
    have hk := ticks_leq s.ticks k
    obtain ⟨ok, grow, nested⟩ := elems_walk t (f := f.attach (specShort s)) h
    exact ⟨fun lo hlo hf => ok lo (hlo.trans hk)
        (hf.attach hlo hk (deepSyms_specShort s ▸ ⟨.nil, List.forall_mem_nil _⟩)),
      { grow.mono hk with }, .cons rfl nested⟩
theorem sections_walk (ss : Sections) {f : Frame} {k : Ctr} {f' : Frame} {k' : Ctr}
    (h : specSections ss f k = .ok (f', k')) :
    (∀ lo, Leq lo k → FrameOK lo f k → FrameOK lo f' k') ∧
    GrowS ss f k f' k' ∧ NestedAdded ss.nested f.classes f'.classes := by
  match ss with
  | .nil =>
    cases h
    exact ⟨fun _ _ hf => hf, .nil f k, .refl _⟩
  | .elems v es t =>
    rw [specSections_elems, bind_eq_ok] at h
    obtain ⟨⟨f1, k1⟩, h1, h2⟩ := h
    obtain ⟨ok1, g1, n1⟩ := elems_walk es h1
    obtain ⟨ok2, g2, n2⟩ := sections_walk t h2
    exact ⟨fun lo hlo hf => ok2 lo (hlo.trans g1.leq) (ok1 lo hlo hf), .elems g1 g2, n1.trans n2⟩
  | .eqs ini items t =>
    obtain ⟨ok, grow, nested⟩ := sections_walk t (f := { f with eqSecs := f.eqSecs ++ [(ini, items)] }) h
    exact ⟨ok, { grow with eqSecs := grow.eqSecs.trans (List.append_assoc ..) }, nested⟩
  | .algs ini items t =>
    obtain ⟨ok, grow, nested⟩ := sections_walk t (f := { f with algSecs := f.algSecs ++ [(ini, items)] }) h
    exact ⟨ok, { grow with algSecs := grow.algSecs.trans (List.append_assoc ..) }, nested⟩
end

theorem elems_ids (es : Elems) (lo : Ctr) (f : Frame) (k : Ctr) (f' : Frame) (k' : Ctr)
    (h : specElems es f k = .ok (f', k')) (hlo : Leq lo k) (hf : FrameOK lo f k) : Leq k k' ∧ FrameOK lo f' k' :=
  have ⟨ok, grow, _⟩ := elems_walk es h
  ⟨grow.leq, ok lo hlo hf⟩

theorem sections_ids (ss : Sections) (lo : Ctr) (f : Frame) (k : Ctr) (f' : Frame) (k' : Ctr)
    (h : specSections ss f k = .ok (f', k')) (hlo : Leq lo k) (hf : FrameOK lo f k) : Leq k k' ∧ FrameOK lo f' k' :=
  have ⟨ok, grow, _⟩ := sections_walk ss h
  ⟨grow.leq, ok lo hlo hf⟩

end PymocaVerif.ClassAsm
