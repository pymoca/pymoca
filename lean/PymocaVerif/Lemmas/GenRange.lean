import PymocaVerif.Model.Gen
/-!
# Lemmas for C11: integer arithmetic of ranges and subscripts — what the subscripts of the Modelica
  meaning select (1-based, Modelica ranges, column-major), and `np.arange(start, stop ± 1, step)`
  against the Modelica range
-/
namespace PymocaVerif.ExprSem

/-- The `k`-th value `l + k·s` of the range `l : s : …` sits `k` steps of `s` past `l`, counted from 0. -/
theorem pos_of_range_value {l s : Int} (k : Nat) (hl : 1 ≤ l) (hs : 0 < s) :
    ((l + (k : Int) * s) - 1).toNat = (l - 1).toNat + k * s.toNat := by
  have h : ((l + (k : Int) * s) - 1) = (((l - 1).toNat + k * s.toNat : Nat) : Int) := by
    push_cast
    rw [Int.toNat_of_nonneg (by omega), Int.toNat_of_nonneg (by omega)]
    omega
  rw [h, Int.toNat_natCast]

/-- An empty range selects nothing, whatever its bounds. -/
theorem subPositions_empty_range (ienv : String → Option Int) (d : Nat) (lo hi : IdxE) (l h s : Int)
    (hlo : lo.eval ienv = some l) (hhi : hi.eval ienv = some h) (hs : 0 < s) (hlh : h < l) :
    subPositions ienv d (.range (some lo) (some hi) s) = some [] := by
  simp only [subPositions, hlo, hhi, Option.bind_eq_bind, Option.bind_some]
  rw [if_neg (Int.not_le.mpr hs), if_pos hlh]

/-- Subscript `[k]` of a vector selects the `k`-th element (1-based); out of `1..d` it has no meaning. -/
theorem positions_vector_element (ienv : String → Option Int) (d : Nat) (e : IdxE) (k : Int)
    (hk : e.eval ienv = some k) :
    positions ienv [d] [.at e] = if 1 ≤ k ∧ k ≤ d then some [(k - 1).toNat] else none := by
  simp only [positions, subPositions, hk, Option.bind_eq_bind, Option.bind_some]

end PymocaVerif.ExprSem

namespace PymocaVerif.Gen
open PymocaVerif.ExprSem

/-- Length of `arange` with the stop moved one *unit* past `stop` (what a correct loop needs). -/
theorem len_unit_past (d t : Int) (ht : 0 < t) :
    ((d + 1 + t - 1) / t).toNat = if 0 ≤ d then (d / t).toNat + 1 else 0 := by
  have h1 : (d + 1 + t - 1) = d + 1 * t := by omega
  rw [h1, Int.add_mul_ediv_right d 1 (Int.ne_of_gt ht)]
  split
  · rename_i hd
    rw [Int.toNat_add (Int.ediv_nonneg hd (Int.le_of_lt ht)) (by decide)]
    rfl
  · rename_i hd
    exact Int.toNat_eq_zero.mpr (Int.add_one_le_of_lt (Int.ediv_neg_of_neg_of_pos (Int.not_le.mp hd) ht))

/-- Length of `arange` with the stop moved one *step* past `stop` (what the generator did before the
    fix 4aad8e2), when the step divides the span. -/
theorem len_step_past_dvd (d t : Int) (ht : 0 < t) (hd : 0 ≤ d) (hdiv : t ∣ d) :
    ((d + t + t - 1) / t).toNat = (d / t).toNat + 1 := by
  -- one step past = one unit past `d + (t - 1)`, and `(d + (t - 1)) / t = d / t` as `t` divides `d`
  have h1 : d + t + t - 1 = (d + (t - 1)) + 1 + t - 1 := by omega
  have h2 : (t - 1) / t = 0 := Int.ediv_eq_zero_of_lt (by omega) (by omega)
  rw [h1, len_unit_past _ t ht, if_pos (show 0 ≤ d + (t - 1) by omega), Int.add_ediv_of_dvd_left hdiv, h2,
    Int.add_zero]

/-- Also for step 0: both sides are empty there (NumPy raises and the generator reports `zeroStep`). -/
theorem arangeCode_eq (a s b : Int) : arangeCode a s b = modelicaRange a s b := by
  simp only [arangeCode, arange, modelicaRange]
  by_cases hp : s > 0
  · simp only [hp, if_true]
    have e : (b + 1 - a + s - 1) = ((b - a) + 1 + s - 1) := by omega
    rw [e, len_unit_past (b - a) s hp]
    by_cases hab : a ≤ b
    · simp [hab]
    · simp [hab, steps]
  · by_cases hn : s < 0
    · simp only [hp, if_false, hn, if_true]
      have e : (a - (b - 1) + -s - 1) = ((a - b) + 1 + (-s) - 1) := by omega
      rw [e, len_unit_past (a - b) (-s) (by omega)]
      by_cases hab : b ≤ a
      · simp [hab]
      · simp [hab, steps]
    · simp [hp, hn]

/-- The old iteration `np.arange(start, stop + step, step)` for comparison: it agrees with the Modelica
    range when the step divides the span (`forloop_range_old_needs_divisibility`). -/
def arangeOld (start step stop : Int) : List Int := arange start (stop + step) step

end PymocaVerif.Gen
