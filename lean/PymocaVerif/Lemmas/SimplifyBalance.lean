import PymocaVerif.Lemmas.SimplifyElim
/-!
# Simplify: equations and unknowns leave in pairs (C15, `balance_step`)

The substituting passes.  `detect_aliases` is treated whole in `SimplifyAliasPass` (`alias_balanced`).
-/
set_option linter.unusedSectionVars false
namespace PymocaVerif.Simplify
open PymocaVerif.AliasRel Lean.Grind

variable {K : Type} [Field K] [DecidableEq K]

/-- `#unknowns - #equations` is the same in both models (stated without subtraction) -/
def Balanced (m m' : Model K) : Prop := nUnknowns m' + m.eqs.length = nUnknowns m + m'.eqs.length

theorem Balanced.refl (m : Model K) : Balanced m m := rfl

theorem Balanced.trans {a b c : Model K} (h1 : Balanced a b) (h2 : Balanced b c) : Balanced a c := by
  unfold Balanced at *; omega

theorem substMeta_lengths (E : Engine K) (l : List (String × Ex K)) (m : Model K) :
    nUnknowns (substMeta E l m) = nUnknowns m ∧ (substMeta E l m).eqs = m.eqs := by
  simp [substMeta, nUnknowns]

theorem resolveLoop_balanced (E : Engine K) (fuel : Nat) (cur : List String) (m : Model K) :
    Balanced m (resolveLoop E fuel cur m) := by
  fun_induction resolveLoop E fuel cur m
  case case1 => rfl
  case case2 => rfl
  case case3 fuel cur m ready _ _ ih =>
    refine Balanced.trans ?_ ih
    have := substMeta_lengths E ready m
    unfold Balanced
    rw [this.1, this.2]

theorem substEverywhere_balanced (E : Engine K) (l : List (String × Ex K)) (m : Model K) :
    Balanced m (substEverywhere E l m) := by
  simp [substEverywhere, substMeta, Balanced, nUnknowns]

theorem substFixed_balanced (E : Engine K) (vs : List (Var K)) (m₀ : Model K) :
    Balanced m₀ (substFixed E vs m₀) := by
  obtain ⟨_, he⟩ | ⟨w, he⟩ := substFixed_cases E vs m₀ <;> rw [he]
  · exact Balanced.refl m₀
  · exact substEverywhere_balanced E _ m₀

theorem pexpr_balanced (E : Engine K) (m : Model K) : Balanced m (replaceParameterExpressions E m) :=
  substFixed_balanced E m.params _

theorem cexpr_balanced (E : Engine K) (m : Model K) : Balanced m (replaceConstantExpressions E m) :=
  substFixed_balanced E m.consts _

theorem names_filter_sub {vs : List (Var K)} {p : Var K → Bool} {n : String} (h : n ∈ names (vs.filter p)) : n ∈ names vs :=
  (List.Sublist.map _ List.filter_sublist).subset h

theorem filter_name_nodup {vs : List (Var K)} {p : Var K → Bool} (h : (names vs).Nodup) : (names (vs.filter p)).Nodup := by
  unfold names at *
  exact List.Nodup.sublist (List.Sublist.map _ List.filter_sublist) h

theorem filter_name_count {vs : List (Var K)} {n : String} (hnd : (names vs).Nodup) (hn : n ∈ names vs) :
    (vs.filter (·.name == n)).length = 1 ∧ (vs.filter (·.name != n)).length + 1 = vs.length := by
  have h1 : (vs.filter (·.name == n)).length = 1 := by
    have := hnd.count (a := n)
    rwa [if_pos hn, List.count_eq_countP, names, List.countP_map, List.countP_eq_length_filter] at this
  have h2 := List.length_eq_countP_add_countP (fun v : Var K => v.name == n) (l := vs)
  rw [List.countP_eq_length_filter, List.countP_eq_length_filter, h1,
    List.filter_congr (q := fun v : Var K => v.name != n) fun v _ => by cases h : v.name == n <;> simp [bne, h]] at h2
  exact ⟨h1, by omega⟩

theorem constLoop_count (es : List (Ex K)) (algs : List (Var K)) : (names algs).Nodup →
    (constLoop es algs).1.length + (constLoop es algs).2.1.length = es.length ∧
    (constLoop es algs).2.2.length + (constLoop es algs).2.1.length = algs.length := by
  fun_induction constLoop es algs <;> intro hnd
  case case1 => exact ⟨rfl, rfl⟩
  case case2 e es algs n c h r vs ih =>
    have hc := filter_name_count hnd (constAssign_mem h)
    have ih := ih (filter_name_nodup hnd)
    show r.1.length + (vs ++ r.2.1).length = (e :: es).length ∧ r.2.2.length + (vs ++ r.2.1).length = algs.length
    simp only [r, vs, List.length_append, List.length_map, List.length_cons]
    omega
  case case3 e es algs h r ih =>
    have ih := ih hnd
    show (e :: r.1).length + r.2.1.length = (e :: es).length ∧ _
    simp only [r, List.length_cons]
    omega

theorem cassign_balanced (m : Model K) (hnd : (names m.algs).Nodup) : Balanced m (eliminateConstantAssignments m) := by
  have := constLoop_count m.eqs m.algs hnd
  simp only [eliminateConstantAssignments, Balanced, nUnknowns]
  omega

theorem pvalues_balanced {E : Engine K} {m m' : Model K} (h : replaceParameterValues E m = .ok m') : Balanced m m' := by
  obtain ⟨ar, _, rfl⟩ := replaceParameterValues_ok h
  exact substEverywhere_balanced E _ _

theorem cvalues_balanced {E : Engine K} {m m' : Model K} (h : replaceConstantValues E m = .ok m') : Balanced m m' := by
  obtain ⟨l, ar, _, _, rfl⟩ := replaceConstantValues_ok h
  exact substEverywhere_balanced E _ _

theorem factor_balanced (m : Model K) : Balanced m (factorAndSimplify m) := by
  simp [factorAndSimplify, Balanced, nUnknowns]

/-- `allSt` is not updated while the loop runs, so a name found through it could be one already eliminated;
    the loop's check for repeated symbols rules that out -/
theorem elimLoop_count {states allSt matched : List String} {es : List (Ex K)} {algs : List (Var K)}
    {r : List (Ex K) × List (String × Ex K) × List (Var K)}
    (h : elimLoop states allSt matched es algs = .ok r) : (names algs).Nodup →
    (∀ n ∈ allSt, n ∈ r.2.1.map (·.1) → n ∈ states ∨ n ∈ names algs) →
    r.1.length + r.2.1.length = es.length ∧ r.2.2.length + r.2.1.length = algs.length := by
  refine elimLoop_induct ?_ ?_ ?_ es algs r h
  · exact fun _ _ _ => ⟨rfl, rfl⟩
  · intro e es algs x v r hext hxs _ hdup ih hnd hall
    have hx : x ∈ names algs := by
      rcases extract_mem hext with h1 | h1 | h1
      · exact (hall x h1 (List.mem_cons_self ..)).resolve_left hxs
      · exact h1
      · exact absurd h1 hxs
    have hc := filter_name_count hnd hx
    have ih := ih (filter_name_nodup hnd) (by
      intro n hn hnr
      refine (hall n hn (List.mem_cons_of_mem _ hnr)).imp_right fun h2 => ?_
      obtain ⟨w, hw, rfl⟩ := List.mem_map.1 h2
      have hne : w.name ≠ x := fun hwx => hdup (hwx ▸ hnr)
      exact List.mem_map.2 ⟨w, List.mem_filter.2 ⟨hw, by simpa using hne⟩, rfl⟩)
    simp only [List.length_cons]
    omega
  · intro e es algs r _ _ ih hnd hall
    have ih := ih hnd hall
    simp only [List.length_cons]
    omega

theorem elim_balanced {E : Engine K} {expandMx : Bool} {matched : List String} {m m' : Model K}
    (hnd : (names m.algs).Nodup) (h : eliminateVariables E expandMx matched m = .ok m') : Balanced m m' := by
  obtain ⟨r, hr, hm'⟩ := eliminateVariables_ok h
  have hc := elimLoop_count hr hnd fun n hn _ => List.mem_append.1 hn
  obtain ⟨_, rfl⟩ | ⟨w, rfl⟩ := hm'
  · simp only [Balanced, nUnknowns]; omega
  · simp only [Balanced, nUnknowns, List.length_map]; omega

end PymocaVerif.Simplify
