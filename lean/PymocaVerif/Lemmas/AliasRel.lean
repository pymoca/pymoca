import PymocaVerif.Model.AliasRel
/-!
The class structure of `AliasRelation`: the invariant `ARInv` of the field `_aliases`, what it says
about the observable `aliases` (a signed equivalence), and the union of two classes, which is what
`add` and `remove` build.  The proofs reach `AR.aliases` and `AR.canonicalSigned` only through their
`_of_some` / `_of_none` / `_congr` equations.
-/
namespace PymocaVerif.AliasRel

@[simp] theorem tog_tog (v : SName) : tog (tog v) = v :=
  Prod.ext (Bool.not_not v.1) rfl

theorem tog_ne (v : SName) : tog v ≠ v :=
  fun e => (Bool.not_eq_self v.1).1 (congrArg Prod.fst e)

theorem tog_inj {u v : SName} (h : tog u = tog v) : u = v := by
  rw [← tog_tog u, h, tog_tog]

theorem eq_tog_iff {u v : SName} : u = tog v ↔ tog u = v :=
  ⟨fun e => e ▸ tog_tog v, fun e => e ▸ (tog_tog u).symm⟩

theorem eq_or_eq_tog {u v : SName} (e : u.2 = v.2) : v = u ∨ v = tog u := by
  obtain ⟨su, c⟩ := u
  obtain ⟨sv, d⟩ := v
  cases e
  by_cases hs : sv = su
  · exact Or.inl (hs ▸ rfl)
  · exact Or.inr (Bool.eq_not_of_ne hs ▸ rfl)

theorem aliases_of_some {s : AR} {x : SName} {A : List SName} (h : s.al x = some A) :
    s.aliases x = A := by
  unfold AR.aliases
  rw [h]
  rfl

theorem aliases_of_none {s : AR} {x : SName} (h : s.al x = none) : s.aliases x = [x] := by
  unfold AR.aliases
  rw [h]
  rfl

theorem aliases_congr {s s' : AR} {x : SName} (h : s'.al x = s.al x) : s'.aliases x = s.aliases x := by
  unfold AR.aliases; rw [h]

theorem al_eq_some_aliases {s : AR} {x : SName} (h : s.al x ≠ none) : s.al x = some (s.aliases x) := by
  cases hx : s.al x with
  | none => exact absurd hx h
  | some A => rw [aliases_of_some hx]

theorem canonicalSigned_of_some {s : AR} {x : SName} {p : String × Bool} (h : s.cmap x = some p) :
    s.canonicalSigned x = p := by
  unfold AR.canonicalSigned
  rw [h]
  rfl

theorem canonicalSigned_of_none {s : AR} {x : SName} (h : s.cmap x = none) :
    s.canonicalSigned x = (x.2, x.1) := by
  unfold AR.canonicalSigned
  rw [h]
  rfl

theorem canonicalSigned_congr {s s' : AR} {x : SName} (h : s'.cmap x = s.cmap x) :
    s'.canonicalSigned x = s.canonicalSigned x := by
  unfold AR.canonicalSigned; rw [h]

structure ARInv (s : AR) : Prop where
  self_mem : ∀ x A, s.al x = some A → x ∈ A
  shared : ∀ x A y, s.al x = some A → y ∈ A → ∃ B, s.al y = some B ∧ ∀ z, z ∈ B ↔ z ∈ A
  neg : ∀ x A, s.al x = some A → ∃ B, s.al (tog x) = some B ∧ ∀ z, z ∈ B ↔ tog z ∈ A
  noself : ∀ x A, s.al x = some A → tog x ∉ A

/-- every field of `ARInv` speaks of one stored name and its class -/
theorem ARInv.of_pointwise {s : AR} (p : ∀ x S, s.al x = some S →
    x ∈ S ∧ (∀ y ∈ S, ∃ B, s.al y = some B ∧ ∀ z, z ∈ B ↔ z ∈ S) ∧
    (∃ B, s.al (tog x) = some B ∧ ∀ z, z ∈ B ↔ tog z ∈ S) ∧ tog x ∉ S) : ARInv s :=
  ⟨fun x S hS => (p x S hS).1, fun x S y hS hy => (p x S hS).2.1 y hy,
   fun x S hS => (p x S hS).2.2.1, fun x S hS => (p x S hS).2.2.2⟩

theorem empty_inv : ARInv AR.empty :=
  ARInv.of_pointwise fun _ _ h => nomatch h

theorem stored_of_mem {s : AR} (h : ARInv s) {x y : SName} (hy : y ∈ s.aliases x) (hx : s.al x ≠ none) :
    s.al y ≠ none := by
  obtain ⟨B, hB, _⟩ := h.shared x _ y (al_eq_some_aliases hx) hy
  rw [hB]; exact Option.some_ne_none B

theorem stored_tog {s : AR} (h : ARInv s) {x : SName} (hx : s.al x ≠ none) : s.al (tog x) ≠ none := by
  obtain ⟨B, hB, _⟩ := h.neg x _ (al_eq_some_aliases hx)
  rw [hB]; exact Option.some_ne_none B

theorem al_tog_none {s : AR} (h : ARInv s) {x : SName} (hx : s.al x = none) : s.al (tog x) = none :=
  Decidable.of_not_not fun hn => stored_tog h hn (by rwa [tog_tog])

theorem mem_aliases_self {s : AR} (h : ARInv s) (x : SName) : x ∈ s.aliases x := by
  by_cases hx : s.al x = none
  · rw [aliases_of_none hx]; exact List.mem_singleton.2 rfl
  · exact h.self_mem x _ (al_eq_some_aliases hx)

theorem aliases_eq_of_mem {s : AR} (h : ARInv s) {x y : SName} (hy : y ∈ s.aliases x) (z : SName) :
    z ∈ s.aliases y ↔ z ∈ s.aliases x := by
  by_cases hx : s.al x = none
  · rw [aliases_of_none hx] at hy; rw [List.mem_singleton.1 hy]
  · obtain ⟨B, hB, hBA⟩ := h.shared x _ y (al_eq_some_aliases hx) hy
    rw [aliases_of_some hB]; exact hBA z

theorem aliases_symm (s : AR) (h : ARInv s) {x y : SName} (hy : y ∈ s.aliases x) : x ∈ s.aliases y :=
  (aliases_eq_of_mem h hy x).2 (mem_aliases_self h x)

theorem aliases_trans {s : AR} (h : ARInv s) {x y z : SName} (hy : y ∈ s.aliases x)
    (hz : z ∈ s.aliases y) : z ∈ s.aliases x :=
  (aliases_eq_of_mem h hy z).1 hz

theorem aliases_tog {s : AR} (h : ARInv s) (x z : SName) :
    z ∈ s.aliases (tog x) ↔ tog z ∈ s.aliases x := by
  by_cases hx : s.al x = none
  · rw [aliases_of_none hx, aliases_of_none (al_tog_none h hx), List.mem_singleton, List.mem_singleton]
    exact eq_tog_iff
  · obtain ⟨B, hB, hBA⟩ := h.neg x _ (al_eq_some_aliases hx)
    rw [aliases_of_some hB]; exact hBA z

theorem tog_not_mem_aliases {s : AR} (h : ARInv s) (x : SName) : tog x ∉ s.aliases x := by
  by_cases hx : s.al x = none
  · rw [aliases_of_none hx, List.mem_singleton]; exact tog_ne x
  · exact h.noself x _ (al_eq_some_aliases hx)

/-- an equivalence on signed names that commutes with negation -/
structure SEquiv (R : SName → SName → Prop) : Prop where
  refl : ∀ x, R x x
  symm : ∀ {x y}, R x y → R y x
  trans : ∀ {x y z}, R x y → R y z → R x z
  neg : ∀ {x y}, R x y → R (tog x) (tog y)

theorem ARInv.sequiv {s : AR} (h : ARInv s) : SEquiv fun x y => y ∈ s.aliases x where
  refl := mem_aliases_self h
  symm := aliases_symm s h
  trans := aliases_trans h
  neg := fun {x y} hy => (aliases_tog h x (tog y)).2 (by rwa [tog_tog])

theorem mem_aliases_tog_of_cross {s : AR} (h : ARInv s) {u v k : SName} (hk : k ∈ s.aliases u)
    (hnk : tog k ∈ s.aliases v) : v ∈ s.aliases (tog u) :=
  aliases_trans h (h.sequiv.neg hk) (aliases_symm s h hnk)

theorem union_closed {s : AR} (h : ARInv s) {u v x y : SName} (hx : x ∈ s.aliases u ++ s.aliases v)
    (hy : y ∈ s.aliases x) : y ∈ s.aliases u ++ s.aliases v :=
  List.mem_append.2 ((List.mem_append.1 hx).imp (aliases_trans h · hy) (aliases_trans h · hy))

theorem union_tog {s : AR} (h : ARInv s) (u v z : SName) :
    z ∈ s.aliases (tog u) ++ s.aliases (tog v) ↔ tog z ∈ s.aliases u ++ s.aliases v := by
  simp only [List.mem_append, aliases_tog h]

theorem union_outside {s : AR} (h : ARInv s) {u v x y : SName} (hx : x ∉ s.aliases u ++ s.aliases v)
    (hnx : tog x ∉ s.aliases u ++ s.aliases v) (hy : y ∈ s.aliases x) :
    y ∉ s.aliases u ++ s.aliases v ∧ tog y ∉ s.aliases u ++ s.aliases v :=
  ⟨fun m => hx (union_closed h m (aliases_symm s h hy)),
   fun m => hnx (union_closed h m (h.sequiv.neg (aliases_symm s h hy)))⟩

/-- The union of the classes of `u` and `v` does not meet its own negation, provided `v` is not in
    the class of `-u`: this is what the admissibility of `add(u, v)` buys. -/
theorem disjoint_neg {s : AR} (h : ARInv s) {u v : SName} (hpre : v ∉ s.aliases (tog u)) {k : SName}
    (hk : k ∈ s.aliases u ++ s.aliases v) : tog k ∉ s.aliases u ++ s.aliases v := by
  intro hnk
  have one : ∀ w, k ∈ s.aliases w → tog k ∈ s.aliases w → False := fun w h1 h2 =>
    tog_not_mem_aliases h w (aliases_symm s h (mem_aliases_tog_of_cross h h1 h2))
  rcases List.mem_append.1 hk with hk | hk <;> rcases List.mem_append.1 hnk with hnk | hnk
  · exact one u hk hnk
  · exact hpre (mem_aliases_tog_of_cross h hk hnk)
  · exact hpre (mem_aliases_tog_of_cross h hnk (by rwa [tog_tog]))
  · exact one v hk hnk

/-- the `_aliases` part of `add` when the early return is not taken -/
def AR.addAl (s : AR) (a b : SName) : SName → Option (List SName) :=
  let A' := s.aliases a ++ s.aliases b
  let I' := s.aliases (tog a) ++ s.aliases (tog b)
  fun k => if k ∈ A' then some A' else if tog k ∈ A' then some I' else s.al k

theorem mem_aliases_add (s s' : AR) (a b x y : SName) (hs' : s'.al = s.addAl a b) :
    y ∈ s'.aliases x ↔
      (if x ∈ s.aliases a ++ s.aliases b then y ∈ s.aliases a ++ s.aliases b
       else if tog x ∈ s.aliases a ++ s.aliases b then y ∈ s.aliases (tog a) ++ s.aliases (tog b)
       else y ∈ s.aliases x) := by
  have e := congrFun hs' x
  split
  · next h1 => rw [aliases_of_some (e.trans (if_pos h1))]
  · split
    · next h1 h2 => rw [aliases_of_some (e.trans ((if_neg h1).trans (if_pos h2)))]
    · next h1 h2 => rw [aliases_congr (e.trans ((if_neg h1).trans (if_neg h2)))]

end PymocaVerif.AliasRel
