import PymocaVerif.Lemmas.ClassAsmWalk
/-!
# The finished tree, read against its description

The fields of the tree of a class (`class_symbols`, `class_rest`, `class_extends_imports`, `class_nested`)
are read off the two frames the class passes through (`class_frames`) and `Grow.andThen`; a dict
filled with distinct names is the list of what was entered (`foldl_dictSet_nodup`); the file dict is
the class dict of a frame without symbols (`specFile_ok`).
-/
namespace PymocaVerif.ClassAsm

theorem secItems_cons (x : Bool × List String) (l : List (Bool × List String)) (ini : Bool) :
    secItems (x :: l) ini = (if x.1 == ini then x.2 else []) ++ secItems l ini := by
  unfold secItems
  rw [List.filter_cons]
  split <;> simp

theorem secItems_eqSecList (ss : Sections) (ini : Bool) : secItems ss.eqSecList ini = ss.items false ini := by
  match ss with
  | .nil => rfl
  | .elems _ _ t => exact secItems_eqSecList t ini
  | .eqs i xs t =>
    simp only [Sections.eqSecList, Sections.items, secItems_cons, secItems_eqSecList t ini, Bool.not_false, Bool.true_and]
  | .algs _ _ t => exact secItems_eqSecList t ini

theorem secItems_algSecList (ss : Sections) (ini : Bool) : secItems ss.algSecList ini = ss.items true ini := by
  match ss with
  | .nil => rfl
  | .elems _ _ t => exact secItems_algSecList t ini
  | .eqs _ _ t => exact secItems_algSecList t ini
  | .algs i xs t =>
    simp only [Sections.algSecList, Sections.items, secItems_cons, secItems_algSecList t ini, Bool.true_and]

theorem visOf_append (p : List (Option Vis)) (v : Vis) (l : List (Option Vis)) :
    visOf (p ++ some v :: l) p.length = v := by
  simp [visOf, labelVis]

theorem secs_vis (ss : Sections) (p : List (Option Vis)) :
    (ss.secs p.length).map (visOf (p ++ ss.labels)) = ss.declVis ∧
    (ss.extSecs p.length).map (visOf (p ++ ss.labels)) = ss.extVis := by
  match ss with
  | .nil => exact ⟨rfl, rfl⟩
  | .elems v es t =>
    have ih := secs_vis t (p ++ [some v])
    simp only [List.length_append, List.length_singleton, List.append_assoc, List.singleton_append] at ih
    simp only [Sections.secs, Sections.extSecs, Sections.labels, Sections.declVis, Sections.extVis, List.map_append,
      List.map_replicate, ih, visOf_append, and_self]
  | .eqs _ _ t => exact secs_vis t p
  | .algs _ _ t => exact secs_vis t p

theorem class_secs_vis (c : ClassSrc) : c.secs.map (visOf c.labels) = c.declVis := by
  obtain ⟨hd, first, ss⟩ := c
  show List.map _ (List.replicate _ 0 ++ ss.secs 1) = List.replicate _ _ ++ ss.declVis
  rw [List.map_append, List.map_replicate, ← (secs_vis ss [none]).1]
  rfl

theorem class_extSecs_vis (c : ClassSrc) : c.extSecs.map (visOf c.labels) = c.extVis := by
  obtain ⟨hd, first, ss⟩ := c
  show List.map _ (List.replicate _ 0 ++ ss.extSecs 1) = List.replicate _ _ ++ ss.extVis
  rw [List.map_append, List.map_replicate, ← (secs_vis ss [none]).2]
  rfl

/-- The frames a class passes through — after its leading element list (`f1`) and after its sections
    (`f2`) — and what the walk added on the way. -/
theorem class_frames {hd : ClassHdr} {first : Elems} {ss : Sections} {k : Ctr} {a : ClassAst} {k' : Ctr}
    (h : specClass (.mk hd first ss) k = .ok (a, k')) :
    ∃ f1 k1 f2 k2, Grow first (Frame.new hd.kind hd.partial_ hd.encapsulated) k f1 k1 ∧
      GrowS ss { f1 with closed := f1.closed ++ [none] } k1 f2 k2 ∧
      NestedAdded (ClassSrc.mk hd first ss).nested [] f2.classes ∧
      a = f2.classAst hd ∧ k' = ticks hd.annTicks k2 := by
  obtain ⟨f1, k1, h1, f2, k2, h2, rfl, rfl⟩ := specClass_ok.mp h
  obtain ⟨_, g1, n1⟩ := elems_walk _ h1
  obtain ⟨_, g2, n2⟩ := sections_walk _ h2
  exact ⟨f1, k1, f2, k2, g1, g2, n1.trans n2, rfl, rfl⟩

theorem class_symbols {c : ClassSrc} {k : Ctr} {a : ClassAst} {k' : Ctr} (h : specClass c k = .ok (a, k')) :
    a.info.symbols.map Sym.view = c.views ∧ a.info.symbols.map (·.sec) = c.secs ∧
    a.info.symbols.map (·.vis) = c.declVis ∧
    a.info.symbols.Pairwise (fun x y => x.order < y.order) ∧ (a.info.symbols.map (·.name)).Nodup := by
  obtain ⟨hd, first, ss⟩ := c
  obtain ⟨f1, k1, f2, k2, g1, g2, _, rfl, rfl⟩ := class_frames h
  obtain ⟨hcl, ⟨S, hS, hv, hx, hp, _⟩, _⟩ := g1.andThen g2
  have hS : f2.info.symbols = S := hS
  have hn := g2.nodup (g1.nodup .nil)
  -- `exitComposition` writes only `vis`; the other projections see through it
  have hsym : (f2.classAst hd).info.symbols = S.map fun y => { y with vis := visOf f2.closed y.sec } :=
    congrArg (List.map _) hS
  rw [hsym]
  simp only [List.map_map, List.pairwise_map]
  refine ⟨hv, hx, ?_, hp, hS ▸ hn⟩
  rw [← class_secs_vis, ← (show S.map (·.sec) = (ClassSrc.mk hd first ss).secs from hx), List.map_map, hcl]
  rfl

theorem class_names {c : ClassSrc} {k : Ctr} {a : ClassAst} {k' : Ctr} (h : specClass c k = .ok (a, k')) :
    a.info.symbols.map (·.name) = c.names ∧ c.names.Nodup :=
  have ⟨hv, _, _, _, hn⟩ := class_symbols h
  have hn' : a.info.symbols.map (·.name) = c.names := names_of_views hv
  ⟨hn', hn' ▸ hn⟩

theorem class_rest {hd : ClassHdr} {first : Elems} {ss : Sections} {k : Ctr} {a : ClassAst} {k' : Ctr}
    (h : specClass (.mk hd first ss) k = .ok (a, k')) :
    a.info.final = false ∧
    a.info.equations = ss.items false false ∧ a.info.initialEquations = ss.items false true ∧
    a.info.statements = ss.items true false ∧ a.info.initialStatements = ss.items true true ∧
    a.info.name = some hd.name ∧ a.info.kind = hd.kind ∧ a.info.partial_ = hd.partial_ ∧
    a.info.encapsulated = hd.encapsulated ∧ a.info.comment = hd.comment ∧ a.info.annotation = hd.annotation := by
  obtain ⟨f1, k1, f2, k2, g1, g2, _, rfl, rfl⟩ := class_frames h
  -- elements and sections leave all these fields as `enterClass_definition` made them
  have hr : f2.info.rest = (Frame.new hd.kind hd.partial_ hd.encapsulated).info.rest := g2.rest.trans g1.rest
  have e1 : f2.info.equations = [] := congrArg ClassInfo.equations hr
  have e2 : f2.info.initialEquations = [] := congrArg ClassInfo.initialEquations hr
  have e3 : f2.info.statements = [] := congrArg ClassInfo.statements hr
  have e4 : f2.info.initialStatements = [] := congrArg ClassInfo.initialStatements hr
  have e5 : f2.info.annotation = none := congrArg ClassInfo.annotation hr
  have hq : f2.eqSecs = ss.eqSecList := g2.eqSecs.trans (congrArg (· ++ ss.eqSecList) g1.eqSecs)
  have ha : f2.algSecs = ss.algSecList := g2.algSecs.trans (congrArg (· ++ ss.algSecList) g1.algSecs)
  refine ⟨congrArg ClassInfo.final hr, ?_, ?_, ?_, ?_, rfl, congrArg ClassInfo.kind hr,
    congrArg ClassInfo.partial_ hr, congrArg ClassInfo.encapsulated hr, rfl, ?_⟩
  · show f2.info.equations ++ secItems f2.eqSecs false = _
    rw [e1, hq, secItems_eqSecList]
    rfl
  · show f2.info.initialEquations ++ secItems f2.eqSecs true = _
    rw [e2, hq, secItems_eqSecList]
    rfl
  · show f2.info.statements ++ secItems f2.algSecs false = _
    rw [e3, ha, secItems_algSecList]
    rfl
  · show f2.info.initialStatements ++ secItems f2.algSecs true = _
    rw [e4, ha, secItems_algSecList]
    rfl
  · show (match hd.annotation with | some a => some a | none => f2.info.annotation) = _
    rw [e5]
    cases hd.annotation <;> rfl

theorem class_name {c : ClassSrc} {k : Ctr} {a : ClassAst} {k' : Ctr} (h : specClass c k = .ok (a, k')) :
    a.info.name = some c.name := by
  obtain ⟨hd, first, ss⟩ := c
  obtain ⟨_, _, _, _, _, _, _, rfl, _⟩ := class_frames h
  rfl

theorem class_extends_imports {c : ClassSrc} {k : Ctr} {a : ClassAst} {k' : Ctr} (h : specClass c k = .ok (a, k')) :
    a.info.extends_.map (fun e => (e.path, e.args)) = c.exts.map (fun e => (e.path, e.args)) ∧
    a.info.extends_.map (·.vis) = c.extVis ∧
    importsFold c.imps [] = .ok a.info.imports := by
  obtain ⟨hd, first, ss⟩ := c
  obtain ⟨f1, k1, f2, k2, g1, g2, _, rfl, rfl⟩ := class_frames h
  obtain ⟨hcl, _, ⟨E, hE, hp, hx⟩, hi⟩ := g1.andThen g2
  have hE : f2.info.extends_ = E := hE
  refine ⟨?_, ?_, hi⟩
  · show List.map _ (List.map _ f2.info.extends_) = _
    rw [List.map_map, hE]
    exact hp
  · show List.map _ (List.map _ f2.info.extends_) = _
    rw [← class_extSecs_vis, List.map_map, hE, hcl, ← (show E.map (·.sec) = (ClassSrc.mk hd first ss).extSecs from hx),
      List.map_map]
    rfl

theorem class_nested {c : ClassSrc} {k : Ctr} {a : ClassAst} {k' : Ctr} (h : specClass c k = .ok (a, k')) :
    ∃ As, NestedAll c.nested As ∧ a.classes = As.foldl dictSet [] := by
  obtain ⟨hd, first, ss⟩ := c
  obtain ⟨f1, k1, f2, k2, _, _, hn, rfl, rfl⟩ := class_frames h
  exact hn

theorem dictSet_fresh {l : List ClassAst} {c : ClassAst} (h : ∀ x ∈ l, x.name ≠ c.name) : dictSet l c = l ++ [c] := by
  induction l with
  | nil => rfl
  | cons x t ih =>
    simp only [dictSet]
    rw [if_neg (h x (by simp)), ih (fun y hy => h y (by simp [hy]))]
    rfl

theorem foldl_dictSet_nodup (As base : List ClassAst) (h : ((base ++ As).map (·.name)).Nodup) :
    As.foldl dictSet base = base ++ As := by
  induction As generalizing base with
  | nil => simp
  | cons a t ih =>
    simp only [List.foldl_cons]
    have hf : dictSet base a = base ++ [a] := by
      apply dictSet_fresh
      intro x hx hxa
      simp only [List.map_append, List.map_cons] at h
      rw [List.nodup_append] at h
      exact h.2.2 x.name (List.mem_map_of_mem hx) a.name (by simp) hxa
    rw [hf, ih]
    · simp
    · simpa using h

theorem deepSyms_setFinal (fin : Bool) (a : ClassAst) : deepSyms (setFinal fin a) = deepSyms a := by
  cases a with
  | mk i cs => simp [setFinal, deepSyms_mk]

/-- The top-level definitions of a file and the trees the specification gives for them. -/
inductive FileAll : List (Bool × ClassSrc) → List ClassAst → Prop
  | nil : FileAll [] []
  | cons {fin c a k k' t as} : specClass c k = .ok (a, k') → FileAll t as → FileAll ((fin, c) :: t) (setFinal fin a :: as)

/-- The file dict is held like the classes of a frame without symbols of its own, so `FrameOK` is the
    invariant of the walk over a file as well. -/
theorem specFile_ok (file : List (Bool × ClassSrc)) (acc : List ClassAst) (lo k : Ctr) (r : List ClassAst)
    (h : specFile file acc k = .ok r) (hlo : Leq lo k)
    (hf : FrameOK lo { Frame.new "" false false with classes := acc } k) :
    (deepSymsList r).Pairwise Sym.Distinct ∧ ∃ As, FileAll file As ∧ r = As.foldl dictSet acc := by
  induction file generalizing acc k with
  | nil =>
    cases h
    exact ⟨(List.pairwise_append.mp hf.1).1, [], .nil, rfl⟩
  | cons x t ih =>
    obtain ⟨fin, c⟩ := x
    rw [specFile_cons, bind_eq_ok] at h
    obtain ⟨⟨a, k1⟩, h1, h2⟩ := h
    obtain ⟨l1, o1⟩ := class_ids c h1
    have hf' := hf.attach (a := setFinal fin a) hlo l1 (deepSyms_setFinal fin a ▸ o1)
    obtain ⟨r1, As, hA, hr⟩ := ih _ _ h2 (hlo.trans l1) hf'
    exact ⟨r1, setFinal fin a :: As, .cons h1 hA, hr⟩

theorem expected_ok {file : List (Bool × ClassSrc)} {r : List ClassAst} (h : expected file = .ok r) :
    (deepSymsList r).Pairwise Sym.Distinct ∧ ∃ As, FileAll file As ∧ r = As.foldl dictSet [] :=
  specFile_ok file [] _ _ r h (Leq.refl _) (.empty rfl rfl)

end PymocaVerif.ClassAsm
