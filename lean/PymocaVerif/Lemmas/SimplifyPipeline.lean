import PymocaVerif.Lemmas.SimplifyElim
import PymocaVerif.Lemmas.SimplifyAlias
import PymocaVerif.Lemmas.SimplifyAffine
/-!
# Simplify: composition of the passes (`_simplify_once`, the loop of `simplify`)
-/
set_option linter.unusedSectionVars false
namespace PymocaVerif.Simplify
open PymocaVerif.AliasRel Lean.Grind

variable {K : Type} [Field K] [DecidableEq K]

/-- The preconditions the property attaches to individual options, stated for the model a pass
    receives: `factor_and_simplify_equations` only drops non-zero constant factors; the alias
    detection's generic test is applied to equations that determine the tested symbol (affine with
    invertible coefficient, or bijective) and CasADi's `is_zero` is right when it says "zero";
    `if_else_zero` forms seen by `eliminable_variable_expression` have complementary conditions. -/
def PassPre (I : Interp K) (σ : Env K) (E : Engine K) (p : Pass) (m : Model K) : Prop :=
  match p with
  | .factor => ∀ e ∈ m.eqs, FactorPre e
  | .elim => ∀ e ∈ m.eqs, ExtractPre I σ e
  | .alias => ∀ k e, m.eqs[k]? = some e → GzOk I E k (E.view k e)
  | _ => True

theorem pass_run_sound {I : Interp K} (hI : InterpOk I) {E : Engine K} (hE : EngineOk I E) {σ : Env K} (o : Opts)
    (p : Pass) {m m' : Model K} (hpre : PassPre I σ E p m) (h : Pass.run E o p m = .ok m') (hs : Sat I σ m) :
    Sat I σ m' := by
  cases p <;> simp only [Pass.run] at h
  · cases h; exact (resolve_sat hE m).2 hs
  · cases h; exact pexpr_sound hE m hs
  · cases h; exact cexpr_sound hE m hs
  · cases h; exact (cassign_sat m).2 hs
  · exact pvalues_sound hE h hs
  · exact cvalues_sound hE h hs
  · exact elim_sound hE h hpre hs
  · cases h; exact (factor_sat hI hpre).2 hs
  · exact alias_sound hE hpre h hs

/-- the preconditions along one run of the enabled passes -/
def RunPre (I : Interp K) (σ : Env K) (E : Pass → Engine K) (o : Opts) : List Pass → Model K → Prop
  | [], _ => True
  | p :: ps, m =>
    if p.enabled o then
      PassPre I σ (E p) p m ∧ ∀ m', Pass.run (E p) o p m = .ok m' → RunPre I σ E o ps m'
    else RunPre I σ E o ps m

theorem runPasses_cons_ok {E : Pass → Engine K} {o : Opts} {p : Pass} {ps : List Pass} {m m' : Model K}
    (h : runPasses E o (p :: ps) m = .ok m') :
    (p.enabled o = true ∧ ∃ m1, Pass.run (E p) o p m = .ok m1 ∧ runPasses E o ps m1 = .ok m') ∨
    (¬ p.enabled o = true ∧ runPasses E o ps m = .ok m') := by
  simp only [runPasses] at h
  split at h
  · split at h
    · cases h
    · exact .inl ⟨‹_›, _, ‹_›, h⟩
  · exact .inr ⟨‹_›, h⟩

/-- The one induction behind every statement about a run of the passes.  `Run` is a predicate that, like
    `RunPre`, hands each enabled pass its `Pre` on the model it receives and goes on with the pass's result;
    if `Pre` makes a pass step `R`, a reflexive and transitive relation, then the whole run steps `R`. -/
theorem runPasses_induct {E : Pass → Engine K} {o : Opts} {Pre : Pass → Model K → Prop}
    {Run : List Pass → Model K → Prop} {R : Model K → Model K → Prop}
    (hcons : ∀ p ps m, Run (p :: ps) m →
      if p.enabled o then Pre p m ∧ ∀ m', Pass.run (E p) o p m = .ok m' → Run ps m' else Run ps m)
    (hrefl : ∀ m, R m m) (htrans : ∀ {a b c}, R a b → R b c → R a c)
    (hstep : ∀ p m m1, Pre p m → Pass.run (E p) o p m = .ok m1 → R m m1) :
    ∀ (ps : List Pass) (m m' : Model K), Run ps m → runPasses E o ps m = .ok m' → R m m'
  | [], m, m', _, h => by cases h; exact hrefl m
  | p :: ps, m, m', hpre, h => by
    have hpre := hcons p ps m hpre
    rcases runPasses_cons_ok h with ⟨hen, m1, h1, h⟩ | ⟨hen, h⟩
    · rw [if_pos hen] at hpre
      exact htrans (hstep p m m1 hpre.1 h1) (runPasses_induct hcons hrefl htrans hstep ps m1 m' (hpre.2 m1 h1) h)
    · rw [if_neg hen] at hpre
      exact runPasses_induct hcons hrefl htrans hstep ps m m' hpre h

theorem runPasses_sound {I : Interp K} (hI : InterpOk I) {E : Pass → Engine K} (hE : ∀ p, EngineOk I (E p))
    {σ : Env K} (o : Opts) : ∀ (ps : List Pass) (m m' : Model K), RunPre I σ E o ps m →
      runPasses E o ps m = .ok m' → Sat I σ m → Sat I σ m' :=
  runPasses_induct (Pre := fun p => PassPre I σ (E p) p) (R := fun m m' => Sat I σ m → Sat I σ m')
    (fun _ _ _ hpre => hpre) (fun _ hs => hs) (fun f g hs => g (f hs))
    (fun p _ _ hpre h1 => pass_run_sound hI (hE p) o p hpre h1)

/-- what one `_simplify_once` needs: the per-pass preconditions along the run, and — when the affine
    collapse is requested — that the equations it is applied to are affine in the unknowns and inputs -/
def OncePre (I : Interp K) (σ : Env K) (E : Pass → Engine K) (o : Opts) (m : Model K) : Prop :=
  RunPre I σ E o Pass.order m ∧
  (o.reduceAffine = true → ∀ m1, runPasses E o Pass.order m = .ok m1 → AffinePre m1)

theorem simplifyOnce_sound {I : Interp K} (hI : InterpOk I) {E : Pass → Engine K} (hE : ∀ p, EngineOk I (E p))
    {σ : Env K} (o : Opts) {m m' : Model K} (hpre : OncePre I σ E o m)
    (h : simplifyOnce E o m = .ok m') (hs : Sat I σ m) : Sat I σ m' := by
  revert h
  fun_cases simplifyOnce E o m <;> intro h
  case case3 m1 h1 =>
    cases h
    have hs1 := runPasses_sound hI hE o _ m m1 hpre.1 h1 hs
    split
    · exact (reduceAffine_sat (hpre.2 ‹_› m1 h1)).2 hs1
    · exact hs1
  all_goals cases h

/-- the preconditions along the iterations of `simplify` -/
def LoopPre (I : Interp K) (σ : Env K) (E : Nat → Pass → Engine K) (o : Opts) : Nat → Nat → Model K → Prop
  | 0, _, _ => True
  | fuel + 1, i, m =>
    OncePre I σ (E i) o m ∧ ∀ m', simplifyOnce (E i) o m = .ok m' → LoopPre I σ E o fuel (i + 1) m'

theorem simplifyLoop_sound {I : Interp K} (hI : InterpOk I) {E : Nat → Pass → Engine K}
    (hE : ∀ i p, EngineOk I (E i p)) {σ : Env K} (o : Opts) (fuel i left : Nat) (m m' : Model K) :
    LoopPre I σ E o fuel i m → simplifyLoop E o fuel i left m = .ok m' → Sat I σ m → Sat I σ m' := by
  fun_induction simplifyLoop E o fuel i left m <;> intro hpre h hs
  case case1 =>
    cases h
    exact ⟨hs.eqs, hs.params, hs.consts, hs.alias⟩
  case case4 m1 h1 _ _ ih => exact ih (hpre.2 m1 h1) h (simplifyOnce_sound hI (hE _) o hpre.1 h1 hs)
  case case5 m1 h1 _ =>
    cases h
    exact simplifyOnce_sound hI (hE _) o hpre.1 h1 hs
  all_goals cases h

/-- option sets that enable only passes without a precondition -/
def Opts.plain (o : Opts) : Prop :=
  o.factorAndSimplify = false ∧ o.eliminable = none ∧ o.detectAliases = false ∧ o.reduceAffine = false

theorem runPre_plain {I : Interp K} {σ : Env K} {E : Pass → Engine K} {o : Opts} (ho : o.plain) :
    ∀ (ps : List Pass) (m : Model K), RunPre I σ E o ps m
  | [], _ => trivial
  | p :: ps, m => by
    simp only [RunPre]
    split
    · rename_i hen
      refine ⟨?_, fun m' _ => runPre_plain ho ps m'⟩
      cases p <;> simp only [PassPre] <;> simp [Pass.enabled, ho.1, ho.2.1, ho.2.2.1] at hen
    · exact runPre_plain ho ps m

theorem loopPre_plain {I : Interp K} {σ : Env K} {E : Nat → Pass → Engine K} {o : Opts} (ho : o.plain) :
    ∀ (fuel i : Nat) (m : Model K), LoopPre I σ E o fuel i m
  | 0, _, _ => trivial
  | fuel + 1, i, m => ⟨⟨runPre_plain ho _ m, fun hra => by simp [ho.2.2.2] at hra⟩, fun m' _ => loopPre_plain ho fuel (i + 1) m'⟩

end PymocaVerif.Simplify
