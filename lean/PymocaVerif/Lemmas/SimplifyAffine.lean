import PymocaVerif.Lemmas.SimplifyBase
/-!
# Simplify: `reduce_affine_expression` — the collapse `A x + b` is exact on affine equations
-/
set_option linter.unusedSectionVars false
namespace PymocaVerif.Simplify
open PymocaVerif.AliasRel Lean.Grind

variable {K : Type} [Field K] [DecidableEq K]

/-- no symbol of `e` is one of `xs` -/
def FreeOf (xs : List String) (e : Ex K) : Prop := ∀ n ∈ e.syms, n ∉ xs

/-- the affine fragment in the symbols `xs`: the property's precondition for this option -/
def AffineIn (xs : List String) : Ex K → Prop
  | .sym _ => True
  | .const _ => True
  | .un .neg a => AffineIn xs a
  | .un .twice a => AffineIn xs a
  | .bin .add a b => AffineIn xs a ∧ AffineIn xs b
  | .bin .sub a b => AffineIn xs a ∧ AffineIn xs b
  | .bin .mul a b => (FreeOf xs a ∧ AffineIn xs b) ∨ (AffineIn xs a ∧ FreeOf xs b)
  | .bin .div a b => AffineIn xs a ∧ FreeOf xs b
  | e => FreeOf xs e

/-- the environment with every `x ∈ xs` at 0 -/
def zeroed (σ : Env K) (xs : List String) : Env K := fun n => if n ∈ xs then 0 else σ n

theorem upd_zeros (I : Interp K) (σ : Env K) (xs : List String) :
    upd I σ (xs.map fun x => (x, (Ex.const 0 : Ex K))) = zeroed σ xs := by
  funext n
  unfold upd zeroed
  induction xs with
  | nil => simp
  | cons x xs ih =>
    simp only [List.map_cons, List.lookup, List.mem_cons]
    by_cases h : n = x
    · subst h; simp [Ex.eval]
    · have : (n == x) = false := by simpa using h
      simp only [this, h, false_or]
      exact ih

theorem eval_linComb (I : Interp K) (σ : Env K) : ∀ (l : List (Ex K × String)) (b : Ex K),
    (linComb l b).eval I σ = (l.foldr (fun p acc => p.1.eval I σ * σ p.2 + acc) (b.eval I σ))
  | [], b => rfl
  | (a, x) :: rest, b => by simp [linComb, Ex.eval, eval_linComb I σ rest b]

/-- `Σ_x c x * σ x` over a list of symbols; the lemmas below say it is linear in `c` -/
def dot (c : String → K) (σ : Env K) : List String → K
  | [] => 0
  | x :: xs => c x * σ x + dot c σ xs

section dot
variable (σ : Env K)

theorem dot_congr {c d : String → K} : ∀ xs, (∀ x ∈ xs, c x = d x) → dot c σ xs = dot d σ xs
  | [], _ => rfl
  | x :: xs, h => by
    rw [dot, dot, h x (List.mem_cons_self ..), dot_congr xs fun y hy => h y (List.mem_cons_of_mem _ hy)]

theorem dot_zero : ∀ xs, dot (fun _ => (0 : K)) σ xs = 0
  | [] => rfl
  | x :: xs => by rw [dot, dot_zero xs, Semiring.zero_mul, AddCommMonoid.add_zero]

theorem dot_add (c d : String → K) : ∀ xs, dot (fun x => c x + d x) σ xs = dot c σ xs + dot d σ xs
  | [] => (AddCommMonoid.add_zero 0).symm
  | x :: xs => by simp only [dot, dot_add c d xs]; grind

theorem dot_sub (c d : String → K) : ∀ xs, dot (fun x => c x - d x) σ xs = dot c σ xs - dot d σ xs
  | [] => (AddCommGroup.sub_self 0).symm
  | x :: xs => by simp only [dot, dot_sub c d xs]; grind

theorem dot_neg (c : String → K) : ∀ xs, dot (fun x => - c x) σ xs = - dot c σ xs
  | [] => AddCommGroup.neg_zero.symm
  | x :: xs => by simp only [dot, dot_neg c xs]; grind

theorem dot_div (c : String → K) (k : K) : ∀ xs, dot (fun x => c x / k) σ xs = dot c σ xs / k
  | [] => by simp only [dot]; grind
  | x :: xs => by simp only [dot, dot_div c k xs]; grind

theorem dot_mul (k : K) (c : String → K) : ∀ xs, dot (fun x => k * c x) σ xs = k * dot c σ xs
  | [] => (Semiring.mul_zero k).symm
  | x :: xs => by simp only [dot, dot_mul k c xs]; grind

/-- the product rule when the derivative of one factor vanishes on `xs` -/
theorem dot_mul_left {c d : String → K} (k l : K) (xs : List String) (hc : ∀ x ∈ xs, c x = 0) :
    dot (fun x => c x * l + k * d x) σ xs = k * dot d σ xs := by
  rw [← dot_mul]
  exact dot_congr σ xs fun x hx => by rw [hc x hx, Semiring.zero_mul, AddCommMonoid.zero_add]

theorem dot_mul_right {c d : String → K} (k l : K) (xs : List String) (hd : ∀ x ∈ xs, d x = 0) :
    dot (fun x => c x * l + k * d x) σ xs = l * dot c σ xs := by
  rw [← dot_mul]
  exact dot_congr σ xs fun x hx => by rw [hd x hx, Semiring.mul_zero, AddCommMonoid.add_zero, CommSemiring.mul_comm]

/-- the coefficient vector of a single symbol -/
theorem dot_single (n : String) : ∀ xs : List String, xs.Nodup →
    dot (fun x => if n = x then 1 else 0) σ xs = if n ∈ xs then σ n else 0
  | [], _ => rfl
  | x :: xs, h => by
    have h := List.nodup_cons.1 h
    rw [dot, dot_single n xs h.2]
    by_cases hn : n = x
    · subst hn
      rw [if_pos rfl, if_neg h.1, if_pos (List.mem_cons_self ..), Semiring.one_mul, AddCommMonoid.add_zero]
    · rw [if_neg hn, Semiring.zero_mul, AddCommMonoid.zero_add]
      simp only [List.mem_cons, hn, false_or]

end dot

theorem lin_add (A a B b : K) : (A + a) + (B + b) = (A + B) + (a + b) := by grind
theorem lin_sub (A a B b : K) : (A + a) - (B + b) = (A - B) + (a - b) := by grind
theorem lin_neg (A a : K) : -(A + a) = -A + -a := by grind
theorem lin_mul_right (A a k : K) : (A + a) * k = k * A + a * k := by grind
theorem lin_div (A a k : K) : (A + a) / k = A / k + a / k := by grind

theorem diff_free {I : Interp K} {ρ : Env K} {x : String} : ∀ (e : Ex K), x ∉ e.syms → (e.diff x).eval I ρ = 0 := by
  intro e
  induction e with
  | sym n =>
    intro h
    have : n ≠ x := fun e => h (by simp [Ex.syms, e])
    simp [Ex.diff, this, Ex.eval]
  | const c => intro _; rfl
  | un o a ih =>
    intro h
    have := ih h
    cases o <;> simp only [Ex.diff, Ex.eval, this, AddCommGroup.neg_zero, AddCommMonoid.add_zero]
  | bin o a b iha ihb =>
    intro h
    have h1 := iha (fun hn => h (List.mem_append_left _ hn))
    have h2 := ihb (fun hn => h (List.mem_append_right _ hn))
    cases o <;> simp only [Ex.diff, Ex.eval, h1, h2, AddCommMonoid.add_zero, AddCommGroup.sub_self,
      Semiring.zero_mul, Semiring.mul_zero, Field.div_eq_mul_inv]

/-- **the affine collapse is exact on affine equations**: with `σ0` the environment that puts the
    unknowns `xs` at 0 and keeps every other symbol (constants, parameters, time), an equation of the
    affine fragment is `Σ_x (∂e/∂x)(σ0) · σ x + e(σ0)` -/
theorem affine_eval {I : Interp K} {σ : Env K} {xs : List String} (hnd : xs.Nodup) :
    ∀ (e : Ex K), AffineIn xs e →
      e.eval I σ = dot (fun x => (e.diff x).eval I (zeroed σ xs)) σ xs + e.eval I (zeroed σ xs) := by
  have hfree : ∀ e : Ex K, FreeOf xs e → e.eval I σ = e.eval I (zeroed σ xs) := by
    intro e he
    apply eval_congr
    intro n hn
    simp [zeroed, he n hn]
  -- an expression without unknowns whose derivative is literally 0
  have hconst : ∀ e : Ex K, (∀ x, e.diff x = .const 0) → FreeOf xs e →
      e.eval I σ = dot (fun x => (e.diff x).eval I (zeroed σ xs)) σ xs + e.eval I (zeroed σ xs) := by
    intro e hd he
    simp only [hd, Ex.eval, dot_zero, AddCommMonoid.zero_add]
    exact hfree e he
  -- the derivative of an expression without unknowns vanishes
  have hzero : ∀ a : Ex K, FreeOf xs a → ∀ x ∈ xs, (a.diff x).eval I (zeroed σ xs) = 0 :=
    fun a ha x hx => diff_free a fun hin => ha x hin hx
  intro e
  induction e with
  | sym n =>
    intro _
    simp only [Ex.diff, apply_ite (Ex.eval I (zeroed σ xs)), Ex.eval, dot_single σ n xs hnd, zeroed]
    split
    · exact (AddCommMonoid.add_zero _).symm
    · exact (AddCommMonoid.zero_add _).symm
  | const c => exact fun _ => hconst _ (fun _ => rfl) nofun
  | un o a ih =>
    cases o with
    | neg =>
      intro h
      simp only [Ex.diff, Ex.eval, dot_neg, ih h]
      exact lin_neg ..
    | twice =>
      intro h
      simp only [Ex.diff, Ex.eval, dot_add, ih h]
      exact lin_add ..
    | sq => exact hconst _ fun _ => rfl
    | fabs => exact hconst _ fun _ => rfl
    | sqrt => exact hconst _ fun _ => rfl
    | other n => exact hconst _ fun _ => rfl
  | bin o a b iha ihb =>
    cases o with
    | add =>
      intro h
      simp only [Ex.diff, Ex.eval, dot_add, iha h.1, ihb h.2]
      exact lin_add ..
    | sub =>
      intro h
      simp only [Ex.diff, Ex.eval, dot_sub, iha h.1, ihb h.2]
      exact lin_sub ..
    | mul =>
      intro h
      rcases h with ⟨hf, hb⟩ | ⟨ha, hf⟩
      · simp only [Ex.diff, Ex.eval, dot_mul_left σ _ _ xs (hzero a hf), ihb hb, hfree a hf]
        exact Semiring.left_distrib ..
      · simp only [Ex.diff, Ex.eval, dot_mul_right σ _ _ xs (hzero b hf), iha ha, hfree b hf]
        exact lin_mul_right ..
    | div =>
      intro h
      simp only [Ex.diff, Ex.eval, dot_div, iha h.1, hfree b h.2]
      exact lin_div ..
    | ifElseZero => exact hconst _ fun _ => rfl
    | other n => exact hconst _ fun _ => rfl

theorem affineRow_eval {I : Interp K} {σ : Env K} {xs : List String} (hnd : xs.Nodup) {e : Ex K} (h : AffineIn xs e) :
    (affineRow xs e).eval I σ = e.eval I σ := by
  have hrow : ∀ (ys : List String) (b : K),
      (ys.map fun x => ((e.diff x).subst (xs.map fun x => (x, Ex.const 0)), x)).foldr
        (fun p acc => p.1.eval I σ * σ p.2 + acc) b = dot (fun x => (e.diff x).eval I (zeroed σ xs)) σ ys + b := by
    intro ys b
    induction ys with
    | nil => exact (AddCommMonoid.zero_add b).symm
    | cons y ys ih =>
      rw [List.map_cons, List.foldr_cons, ih, dot, eval_subst, upd_zeros, Semiring.add_assoc]
  rw [affineRow, eval_linComb, hrow, eval_subst, upd_zeros, ← affine_eval hnd e h]

/-- the precondition of `reduce_affine_expression`: the equations are affine in the unknowns and inputs -/
def AffinePre (m : Model K) : Prop := m.affineVars.Nodup ∧ ∀ e ∈ m.eqs, AffineIn m.affineVars e

theorem reduceAffine_sat {I : Interp K} {σ : Env K} {m : Model K} (h : AffinePre m) :
    Sat I σ (reduceAffine m) ↔ Sat I σ m :=
  sat_mapEqs (fun e he => by rw [affineRow_eval h.1 (h.2 e he)]) rfl rfl rfl rfl

end PymocaVerif.Simplify
