import PymocaVerif.Model.CacheFile
/-!
Invariants of the two-call / one-file system of `Model/CacheFile.lean`.

An enabled action moves one call to a new phase and possibly replaces the file (`Step`).  The
invariants read the phases only through `Phase.opened` and `posOf`; `load` and `close` change
neither, and after `openW`, `write` and `replace` the acting call has the file open, so that
only what the invariants say about that call has to be looked at.
-/
namespace PymocaVerif.CacheFile

/-- `f` is exactly the first `p` bytes of `B`. -/
def IsPre (f : File) (B : Nat → Nat) (p : Nat) : Prop := f.len = p ∧ ∀ j, j < p → f.byte j = B j

/-- How many of its `N` bytes a call in this phase has issued to the file it opened. -/
def posOf (N : Nat) : Phase → Nat
  | .writing p => p
  | .done false => N
  | _ => 0

theorem isAll_iff (f : File) (B : Nat → Nat) (N : Nat) : f.isAll B N = true ↔ IsPre f B N := by
  simp [File.isAll, IsPre]

theorem isPrefix_iff (f : File) (B : Nat → Nat) (p : Nat) : f.isPrefix B p = true ↔ IsPre f B p := by
  simp [File.isPrefix, IsPre]

def HasPre (f : File) (B : Nat → Nat) (p : Nat) : Prop := p ≤ f.len ∧ ∀ j, j < p → f.byte j = B j

section
variable {f : File} {B : Nat → Nat} {p pos : Nat}

theorem IsPre.hasPre (h : IsPre f B p) : HasPre f B p :=
  ⟨Nat.le_of_eq h.1.symm, h.2⟩

theorem HasPre.byte_writeAt (h : HasPre f B p) (pos n : Nat) {j : Nat}
    (hj : j < p ∨ (pos ≤ j ∧ j < pos + n)) : (f.writeAt pos n B).byte j = B j := by
  show (if pos ≤ j ∧ j < pos + n then B j else if j < f.len then f.byte j else 0) = B j
  split
  · rfl
  · next hw =>
    have hjp : j < p := hj.resolve_right hw
    rw [if_pos (Nat.lt_of_lt_of_le hjp h.1), h.2 j hjp]

theorem HasPre.writeAt (h : HasPre f B p) (pos n : Nat) : HasPre (f.writeAt pos n B) B p :=
  ⟨Nat.le_trans h.1 (Nat.le_max_left ..), fun _ hj => h.byte_writeAt pos n (.inl hj)⟩

theorem HasPre.writeAt_extend (h : HasPre f B pos) (n : Nat) : HasPre (f.writeAt pos n B) B (pos + n) :=
  ⟨Nat.le_max_right .., fun j hj => h.byte_writeAt pos n ((Nat.lt_or_ge j pos).imp_right fun hp => ⟨hp, hj⟩)⟩

theorem IsPre.writeAt (h : IsPre f B pos) (n : Nat) : IsPre (f.writeAt pos n B) B (pos + n) :=
  ⟨(congrArg (max · (pos + n)) h.1).trans (Nat.max_eq_right (Nat.le_add_right ..)),
    (h.hasPre.writeAt_extend n).2⟩

end

theorem setPh_same (ph : Bool → Phase) (i : Bool) (p : Phase) : setPh ph i p i = p :=
  if_pos rfl

theorem setPh_other (ph : Bool → Phase) (i j : Bool) (p : Phase) (h : j ≠ i) : setPh ph i p j = ph j := by
  simp [setPh, h]

theorem setPh_not (ph : Bool → Phase) (i : Bool) (p : Phase) : setPh ph i p (!i) = ph (!i) :=
  setPh_other ph i (!i) p (by cases i <;> decide)

/-- A quantity `g` of the phases that the new phase of call `i` shares with its old one is the
    same for every call. -/
theorem setPh_frame {α : Type} (g : Bool → Phase → α) {ph : Bool → Phase} {i : Bool} {q : Phase}
    (h : g i q = g i (ph i)) (j : Bool) : g j (setPh ph i q j) = g j (ph j) := by
  by_cases hj : j = i
  · subst hj
    rw [setPh_same]
    exact h
  · rw [setPh_other ph i j q hj]

theorem posOf_le {n : Nat} {ph : Phase} (hb : ∀ p, ph = .writing p → p ≤ n) : posOf n ph ≤ n := by
  unfold posOf
  split
  · exact hb _ rfl
  · exact Nat.le_refl n
  · exact Nat.zero_le n

/-- What an enabled action does.  The loader's verdict is left open: the invariants hold
    whatever it is. -/
inductive Step (B : Bool → Nat → Nat) (N : Bool → Nat) (s : Sys) : Act → Sys → Prop
  | load {i : Bool} (hit : Bool) (h : s.ph i = .start) :
      Step B N s (.load i) { s with ph := setPh s.ph i (if hit then .done true else .missed) }
  | openW {i : Bool} (h : s.ph i = .missed) :
      Step B N s (.openW i) ⟨some File.empty, setPh s.ph i (.writing 0), some i⟩
  | write {i : Bool} {pos n : Nat} (h : s.ph i = .writing pos) (hn : pos + n ≤ N i) :
      Step B N s (.write i n)
        { s with file := some ((s.file.getD File.empty).writeAt pos n (B i)),
                 ph := setPh s.ph i (.writing (pos + n)) }
  | close {i : Bool} (h : s.ph i = .writing (N i)) :
      Step B N s (.close i) { s with ph := setPh s.ph i (.done false) }
  | replace {i : Bool} (h : s.ph i = .missed) :
      Step B N s (.replace i) ⟨some (File.full (B i) (N i)), setPh s.ph i (.done false), some i⟩

section
variable {B : Bool → Nat → Nat} {N : Bool → Nat} {valid : File → Bool} {s s' : Sys} {a : Act}

theorem Step.of_stepG (h : stepG B N valid s a = some s') : Step B N s a s' := by
  revert h
  -- where the action is not enabled `stepG` gives `none`; five branches are left, one per action
  fun_cases stepG B N valid s a <;> rintro ⟨⟩
  next hph _ => exact .load _ hph
  next hph => exact .openW hph
  next hph hn => exact .write hph hn.2
  next hph => exact .close hph
  next hph => exact .replace hph

theorem runActsG_cons {rest : List Act} : runActsG B N valid s (a :: rest) = some s' ↔
      ∃ s1, stepG B N valid s a = some s1 ∧ runActsG B N valid s1 rest = some s' := by
  simp only [runActsG]
  cases stepG B N valid s a <;> simp

theorem run_invariant {P : Sys → Prop}
    (hstep : ∀ {s s' : Sys} {a : Act}, P s → Step B N s a s' → P s') :
    ∀ {acts : List Act} {s s' : Sys}, P s → runActsG B N valid s acts = some s' → P s'
  | [], _, _, hp, h => Option.some.inj h ▸ hp
  | _ :: _, _, _, hp, h =>
    have ⟨_, h1, h2⟩ := runActsG_cons.1 h
    run_invariant hstep (hstep hp (.of_stepG h1)) h2

theorem atomic_file {f0 : Option File} {acts : List Act} (hat : atomicOnly acts = true)
    (hr : runActsG B N valid s acts = some s')
    (h : s.file = f0 ∨ ∃ i, s.file = some (File.full (B i) (N i))) :
    s'.file = f0 ∨ ∃ i, s'.file = some (File.full (B i) (N i)) := by
  induction acts generalizing s with
  | nil => exact Option.some.inj hr ▸ h
  | cons a rest ih =>
    obtain ⟨s1, h1, h2⟩ := runActsG_cons.1 hr
    cases Step.of_stepG h1 with
    | load _ _ => exact ih hat h2 h
    | replace _ => exact ih hat h2 (.inr ⟨_, rfl⟩)
    | _ => cases hat

end

theorem step_eq_stepG (B : Nat → Nat) (N : Nat) (valid : File → Bool) (s : Sys) (a : Act) :
    step B N valid s a = stepG (fun _ => B) (fun _ => N) valid s a := by
  cases a <;> rfl

theorem runActs_eq_runActsG (B : Nat → Nat) (N : Nat) (valid : File → Bool) (s : Sys) (acts : List Act) :
    runActs B N valid s acts = runActsG (fun _ => B) (fun _ => N) valid s acts := by
  induction acts generalizing s with
  | nil => rfl
  | cons a rest ih => simp only [runActs, runActsG, step_eq_stepG, ih]

/-- Invariant for arbitrary bytes per call: untouched initial file while nobody has opened; while
    exactly one call has opened, exactly the prefix it has written so far. -/
structure GoodG (B : Bool → Nat → Nat) (N : Bool → Nat) (f0 : Option File) (s : Sys) : Prop where
  bound : ∀ i p, s.ph i = .writing p → p ≤ N i
  fresh : (s.ph false).opened = false → (s.ph true).opened = false → s.file = f0
  single : ∀ l, (s.ph l).opened = true → (s.ph (!l)).opened = false →
      ∃ f, s.file = some f ∧ IsPre f (B l) (posOf (N l) (s.ph l))

section
variable {B : Bool → Nat → Nat} {N : Bool → Nat} {f0 : Option File} {s s' : Sys} {a : Act}

theorem goodG_init (B : Bool → Nat → Nat) (N : Bool → Nat) (f0 : Option File) : GoodG B N f0 (init f0) where
  bound _ _ h := nomatch h
  fresh _ _ := rfl
  single _ h := nomatch h

/-- Call `i` goes from phase `p` to `q`, neither opening the file nor moving its offset. -/
theorem GoodG.move (hg : GoodG B N f0 s) {i : Bool} {p q : Phase} (hp : s.ph i = p)
    (h : q.opened = p.opened ∧ posOf (N i) q = posOf (N i) p) :
    GoodG B N f0 { s with ph := setPh s.ph i q } := by
  subst hp
  have ho := setPh_frame (fun _ p => p.opened) h.1
  have hp := setPh_frame (fun j p => posOf (N j) p) h.2
  refine ⟨fun j p (hj : setPh s.ph i q j = .writing p) => ?_, fun h0 h1 => ?_, fun l hl hnl => ?_⟩
  · have hpj : p = posOf (N j) (s.ph j) := by rw [← hp j, hj]; rfl
    exact hpj ▸ posOf_le (hg.bound j)
  · simp only [ho] at h0 h1
    exact hg.fresh h0 h1
  · simp only [ho, hp] at hl hnl ⊢
    exact hg.single l hl hnl

/-- Call `i` goes to a phase `q` in which it has the file open: what is left to show is that
    the file is its prefix if the other call has not opened. -/
theorem GoodG.of_opened (hg : GoodG B N f0 s) {file : Option File} {last : Option Bool} {i : Bool} {q : Phase}
    (hq : q.opened = true) (hb : posOf (N i) q ≤ N i)
    (hs : (s.ph (!i)).opened = false → ∃ f, file = some f ∧ IsPre f (B i) (posOf (N i) q)) :
    GoodG B N f0 ⟨file, setPh s.ph i q, last⟩ := by
  have hi : (setPh s.ph i q i).opened = true := by rw [setPh_same]; exact hq
  refine ⟨fun j p (hj : setPh s.ph i q j = .writing p) => ?_, fun h0 h1 => ?_, fun l _ hnl => ?_⟩
  · by_cases hji : j = i
    · subst hji
      rw [setPh_same] at hj
      rw [hj] at hb
      exact hb
    · rw [setPh_other s.ph i j q hji] at hj
      exact hg.bound j p hj
  · cases i with
    | false =>
      rw [h0] at hi
      cases hi
    | true =>
      rw [h1] at hi
      cases hi
  · dsimp only at hnl ⊢
    by_cases hli : l = i
    · subst hli
      rw [setPh_not] at hnl
      rw [setPh_same]
      exact hs hnl
    · -- the call other than `l` is `i`, which has the file open
      rw [← Bool.eq_not_of_ne (Ne.symm hli), hi] at hnl
      cases hnl

theorem GoodG.step (hg : GoodG B N f0 s) (h : Step B N s a s') : GoodG B N f0 s' := by
  cases h with
  | load hit hph => exact hg.move hph (by cases hit <;> exact ⟨rfl, rfl⟩)
  | close hph => exact hg.move hph ⟨rfl, rfl⟩
  | openW hph =>
    exact hg.of_opened rfl (Nat.zero_le _) fun _ => ⟨_, rfl, rfl, fun _ h => nomatch h⟩
  | replace hph => exact hg.of_opened rfl (Nat.le_refl _) fun _ => ⟨_, rfl, rfl, fun _ _ => rfl⟩
  | @write i pos n hph hn =>
    refine hg.of_opened rfl hn fun hno => ?_
    obtain ⟨f, hf, hpre⟩ := hg.single i (by rw [hph]; rfl) hno
    rw [hph] at hpre
    exact ⟨_, by rw [hf, Option.getD_some], (show IsPre f (B i) pos from hpre).writeAt n⟩

theorem GoodG.of_run {valid : File → Bool} {acts : List Act}
    (h : runActsG B N valid (init f0) acts = some s) : GoodG B N f0 s :=
  run_invariant GoodG.step (goodG_init B N f0) h

end

/-- Invariant when both calls write `B`: once somebody has opened the file, the call that opened
    it last has a correct prefix of `B` up to its own offset on disk, and the file is at most as
    long as `B`. -/
def Good (B : Nat → Nat) (N : Nat) (s : Sys) : Prop :=
  ∀ i, (s.ph i).opened = true → ∃ l f, s.last = some l ∧ (s.ph l).opened = true ∧
    s.file = some f ∧ f.len ≤ N ∧ HasPre f B (posOf N (s.ph l))

section
variable {B : Nat → Nat} {N : Nat} {s s' : Sys} {a : Act}

theorem good_init (B : Nat → Nat) (N : Nat) (f0 : Option File) : Good B N (init f0) :=
  fun _ h => nomatch h

theorem Good.move (hg : Good B N s) {i : Bool} {p q : Phase} (hp : s.ph i = p)
    (h : q.opened = p.opened ∧ posOf N q = posOf N p) :
    Good B N { s with ph := setPh s.ph i q } := by
  subst hp
  intro j hj
  simp only [setPh_frame (fun _ p => p.opened) h.1, setPh_frame (fun _ p => posOf N p) h.2] at hj ⊢
  exact hg j hj

theorem Good.step (hg : Good B N s) (h : Step (fun _ => B) (fun _ => N) s a s') : Good B N s' := by
  cases h with
  | load hit hph => exact hg.move hph (by cases hit <;> exact ⟨rfl, rfl⟩)
  | close hph => exact hg.move hph ⟨rfl, rfl⟩
  | @openW i hph =>
    intro _ _
    dsimp only
    refine ⟨i, File.empty, rfl, ?_, rfl, Nat.zero_le N, ?_⟩
    · rw [setPh_same]
      rfl
    · rw [setPh_same]
      exact ⟨Nat.le_refl 0, fun _ h => nomatch h⟩
  | @replace i hph =>
    intro _ _
    dsimp only
    refine ⟨i, File.full B N, rfl, ?_, rfl, Nat.le_refl N, ?_⟩
    · rw [setPh_same]
      rfl
    · rw [setPh_same]
      exact ⟨Nat.le_refl N, fun _ _ => rfl⟩
  | @write i pos n hph hn =>
    intro _ _
    dsimp only
    obtain ⟨l, f, hl, hlo, hf, hlen, hpre⟩ := hg i (by rw [hph]; rfl)
    refine ⟨l, f.writeAt pos n B, hl, (setPh_frame (fun _ p => p.opened) (by rw [hph]; rfl) l).trans hlo,
      by rw [hf, Option.getD_some], Nat.max_le.2 ⟨hlen, hn⟩, ?_⟩
    -- the last opener is the writer, whose prefix grows, or the other call, whose prefix is kept
    by_cases hli : l = i
    · subst hli
      rw [hph] at hpre
      rw [setPh_same]
      exact hpre.writeAt_extend n
    · rw [setPh_other s.ph i l _ hli]
      exact hpre.writeAt pos n

theorem Good.of_run {valid : File → Bool} {f0 : Option File} {acts : List Act}
    (h : runActs B N valid (init f0) acts = some s) : Good B N s :=
  run_invariant Good.step (good_init B N f0) ((runActs_eq_runActsG ..).symm.trans h)

end

end PymocaVerif.CacheFile
