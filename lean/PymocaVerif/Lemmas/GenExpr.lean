import PymocaVerif.Model.Gen
/-!
# Lemmas for C11 / C12: translation of expressions (`gen`) — correct where it succeeds, and it succeeds
  on the supported subset

`Refines` relates Option-valued semantics; a translation is a chain of `Except` binds: `bind_ok` /
`bind2_ok` take a successful chain apart, `Refines.bind` / `Refines.cons` put the evaluation chains back
together.  The mutual inductions over terms match on the term alone and take the remaining arguments by
`fun` (matching on all of them at once is several times slower to elaborate).

An `if_else` chain has two forms: `foldFromLast` is the backwards loop as the generator runs it, `nestAll`
the same chain by structural recursion (`foldFromLast_eq_nestAll`, given one more value than conditions).
Inductions go over `nestAll` and are carried over to generated code by that equation; only closedness
(`GenClosed`) is proved for each form, since it holds whatever the lengths.
-/
namespace PymocaVerif.Gen
open PymocaVerif.ExprSem

/-- `x` refines `y`: wherever the specification `y` is defined, `x` is defined and agrees. -/
def Refines (x y : Option α) : Prop := ∀ v, y = some v → x = some v

theorem Refines.refl {x : Option α} : Refines x x := fun _ h => h

theorem Refines.of_eq {x y : Option α} (h : x = y) : Refines x y := fun _ hv => h ▸ hv

theorem Refines.trans {x y z : Option α} (h1 : Refines x y) (h2 : Refines y z) : Refines x z :=
  fun v hv => h1 v (h2 v hv)

theorem Refines.bind {x y : Option α} {f g : α → Option β} (h : Refines x y)
    (hf : ∀ a, Refines (f a) (g a)) : Refines (x >>= f) (y >>= g) := by
  intro v hv
  obtain ⟨a, ha, hv⟩ := Option.bind_eq_some_iff.mp hv
  exact Option.bind_eq_some_iff.mpr ⟨a, h a ha, hf a v hv⟩

theorem Refines.bind_same {x : Option α} {f g : α → Option β}
    (hf : ∀ a, Refines (f a) (g a)) : Refines (x >>= f) (x >>= g) := Refines.bind Refines.refl hf

theorem Refines.cons {x y : Option α} {xs ys : Option (List α)} (h : Refines x y) (hs : Refines xs ys) :
    Refines (do let a ← x; let as ← xs; some (a :: as)) (do let a ← y; let as ← ys; some (a :: as)) :=
  Refines.bind h fun _ => Refines.bind hs fun _ => Refines.refl

theorem Refines.map {x y : Option α} (f : α → β) (h : Refines x y) : Refines (x.map f) (y.map f) := by
  intro v hv
  obtain ⟨a, ha, hv⟩ := Option.map_eq_some_iff.mp hv
  exact Option.map_eq_some_iff.mpr ⟨a, h a ha, hv⟩

theorem Refines.ite {b : Bool} {x x' y y' : Option α} (ht : Refines x y) (hf : Refines x' y') :
    Refines (if b then x else x') (if b then y else y') := by
  cases b
  · exact hf
  · exact ht

theorem bind2_eq_some {x : Option α} {y : Option β} {g : α → β → γ} {c : γ} :
    (do let a ← x; let b ← y; some (g a b)) = some c ↔ ∃ a b, x = some a ∧ y = some b ∧ c = g a b := by
  simp only [Option.bind_eq_bind, Option.bind_eq_some_iff, Option.some.injEq]
  exact ⟨fun ⟨a, ha, b, hb, h⟩ => ⟨a, b, ha, hb, h.symm⟩, fun ⟨a, b, ha, hb, h⟩ => ⟨a, ha, b, hb, h.symm⟩⟩

theorem bind_ok {ε α β : Type} {x : Except ε α} {f : α → Except ε β} {b : β} :
    (x >>= f) = .ok b ↔ ∃ a, x = .ok a ∧ f a = .ok b := by
  cases x with
  | error e => exact ⟨nofun, nofun⟩
  | ok a => exact ⟨fun h => ⟨a, rfl, h⟩, fun ⟨_, ha, h⟩ => by cases ha; exact h⟩

theorem bind2_ok {ε α β γ : Type} {x : Except ε α} {y : Except ε β} {g : α → β → γ} {c : γ} :
    (do let a ← x; let b ← y; Except.ok (g a b)) = .ok c ↔ ∃ a b, x = .ok a ∧ y = .ok b ∧ c = g a b := by
  refine ⟨fun h => ?_, fun ⟨a, b, ha, hb, h⟩ => bind_ok.mpr ⟨a, ha, bind_ok.mpr ⟨b, hb, congrArg _ h.symm⟩⟩⟩
  obtain ⟨a, ha, h⟩ := bind_ok.mp h
  obtain ⟨b, hb, h⟩ := bind_ok.mp h
  exact ⟨a, b, ha, hb, (Except.ok.inj h).symm⟩

theorem map_ok {ε α β : Type} {x : Except ε α} {f : α → β} {b : β} (h : x.map f = .ok b) :
    ∃ a, x = .ok a ∧ b = f a := by
  cases x with
  | error e => cases h
  | ok a => cases h; exact ⟨a, rfl, rfl⟩

theorem map_bind {ε α β γ : Type} (x : Except ε α) (f : α → Except ε β) (r : β → γ) :
    (x >>= f).map r = x >>= fun a => (f a).map r := by
  cases x <;> rfl

theorem bind_map {ε α β γ : Type} (x : Except ε α) (r : α → β) (f : β → Except ε γ) :
    x.map r >>= f = x >>= fun a => f (r a) := by
  cases x <;> rfl

theorem cons_map {ε α : Type} {x x' : Except ε α} {xs xs' : Except ε (List α)} {r : α → α}
    (h : x' = x.map r) (hs : xs' = xs.map (List.map r)) :
    (do let a ← x'; let as ← xs'; .ok (a :: as)) =
      (do let a ← x; let as ← xs; Except.ok (a :: as)).map (List.map r) := by
  subst h hs
  cases x <;> cases xs <;> rfl

theorem bind_total {ε α β : Type} {x : Except ε α} {f : α → Except ε β} (hx : ∃ a, x = .ok a)
    (hf : ∀ a, ∃ b, f a = .ok b) : ∃ b, x >>= f = .ok b := by
  obtain ⟨a, rfl⟩ := hx
  exact hf a

theorem evalCs_ofList (P : Prims K) (ρ : Env K) (ts : List (CTerm K)) :
    evalCs P ρ (CTerms.ofList ts) = evalCL P ρ ts := by
  induction ts with
  | nil => rfl
  | cons t ts ih => simp only [CTerms.ofList, evalCs, evalCL, ih]

theorem evalCL_cons_some {P : Prims K} {ρ : Env K} {t : CTerm K} {ts : List (CTerm K)} {vs : List (List K)} :
    evalCL P ρ (t :: ts) = some vs ↔
      ∃ v vs', evalC P ρ t = some v ∧ evalCL P ρ ts = some vs' ∧ vs = v :: vs' :=
  bind2_eq_some

theorem evalCL_append (P : Prims K) (ρ : Env K) : ∀ (xs ys : List (CTerm K)),
    evalCL P ρ (xs ++ ys) = (do let a ← evalCL P ρ xs; let b ← evalCL P ρ ys; some (a ++ b))
  | [] => fun ys => by simp [evalCL]
  | x :: xs => fun ys => by
    simp only [List.cons_append, evalCL, evalCL_append P ρ xs ys, Option.bind_eq_bind, Option.bind_assoc,
      Option.bind_some]

theorem evalCL_length (P : Prims K) (ρ : Env K) : ∀ (ts : List (CTerm K)) vs,
    evalCL P ρ ts = some vs → vs.length = ts.length
  | [] => fun vs h => by cases h; rfl
  | t :: ts => fun vs h => by
    obtain ⟨v, vs', _, hts, rfl⟩ := evalCL_cons_some.mp h
    rw [List.length_cons, List.length_cons, evalCL_length P ρ ts vs' hts]

theorem rowsOver_refines {f g : Int → Option (List K)} (h : ∀ v, Refines (f v) (g v)) (vals : List Int) :
    Refines (rowsOver f vals) (rowsOver g vals) := by
  induction vals with
  | nil => exact Refines.refl
  | cons v vs ih => exact Refines.cons (h v) ih

/-- The backwards loop of `exitIfExpression` / `exitIfEquation` is a right fold over the
    (condition, value) pairs, starting from the `else` value. -/
theorem foldFromLast_snoc (cs es : List (CTerm K)) (last : CTerm K) (h : cs.length = es.length) :
    foldFromLast cs (es ++ [last]) = (cs.zip es).foldr (fun p acc => .ifElse p.1 p.2 acc) last := by
  simp only [foldFromLast, List.reverse_append, List.reverse_cons, List.reverse_nil, List.nil_append,
    List.cons_append]
  rw [show cs.reverse.zip es.reverse = (cs.zip es).reverse from (List.reverse_zipWith h).symm,
    List.foldl_reverse]

/-- Right-nested `if_else` chain over the full list of branch values (the last one is the `else` value). -/
def nestAll : List (CTerm K) → List (CTerm K) → CTerm K
  | [], [last] => last
  | c :: cs, e :: es => .ifElse c e (nestAll cs es)
  | _, _ => .vcat .nil

theorem nestAll_snoc (cs : List (CTerm K)) : ∀ (es : List (CTerm K)) (last : CTerm K), cs.length = es.length →
    nestAll cs (es ++ [last]) = (cs.zip es).foldr (fun p acc => .ifElse p.1 p.2 acc) last := by
  induction cs with
  | nil =>
    intro es _ h
    cases List.eq_nil_of_length_eq_zero h.symm
    rfl
  | cons c cs ih =>
    intro es last h
    match es, h with
    | e :: es, h => exact congrArg (CTerm.ifElse c e) (ih es last (Nat.succ.inj h))

theorem foldFromLast_eq_nestAll {cs es : List (CTerm K)} (hlen : cs.length + 1 = es.length) :
    foldFromLast cs es = nestAll cs es := by
  rcases List.eq_nil_or_concat es with rfl | ⟨init, last, rfl⟩
  · cases hlen
  · rw [List.concat_eq_append] at hlen ⊢
    have h : cs.length = init.length := by simpa using hlen
    rw [foldFromLast_snoc cs init last h, nestAll_snoc cs init last h]

/-- The translated function table agrees with the meaning table: same domain, and every translated
    function computes what its meaning computes wherever that is defined. -/
structure TabOK (P : Prims K) (T : FTab K) (F : FSem K) : Prop where
  dom : ∀ f, (T f).isSome = (F f).isSome
  sem : ∀ f fn, T f = some (.ok fn) → ∃ g, F f = some g ∧ ∀ vs, Refines (evalCF P fn vs) (g vs)

/-- No user function is named like an operator or an elementary function (`hasattr(MX, name)` and
    `OP_MAP` take precedence in `exitExpression`). -/
def NoShadow (T : FTab K) : Prop := (∀ e, T (elemName e) = none) ∧ (∀ op, T (binName op) = none)

theorem NoShadow.elem {T : FTab K} : NoShadow T → ∀ e, T (elemName e) = none := And.left

theorem NoShadow.bin {T : FTab K} : NoShadow T → ∀ op, T (binName op) = none := And.right

theorem userCall_ok {o : Opts} {T : FTab K} {name : String} {args : List (CTerm K)} {c : CTerm K}
    (h : userCall o T name args = .ok c) :
    ∃ fn, T name = some (.ok fn) ∧ c = .call o.inline fn (CTerms.ofList args) := by
  unfold userCall at h
  split at h
  · rename_i fn hT
    cases h
    exact ⟨fn, hT, rfl⟩
  · cases h
  · cases h

theorem userCall_none {o : Opts} {T : FTab K} {name : String} (h : T name = none) (args : List (CTerm K)) :
    userCall o T name args = .error (.unknownFunction name) := by
  simp only [userCall, h]

/-- The `MX` method a binary operator is translated to: `*` is `mtimes`, the others go through
    `OP_MAP`; `<>` has none. -/
def binMeth (op : BinOp) : Option Meth := if op = .mul then some .mtimes else opMap op

/-- `MX` has every method `OP_MAP` names, so `genBin` never raises the `AttributeError`. -/
theorem genBin_eq (o : Opts) (T : FTab K) (op : BinOp) (ta tb : CTerm K) :
    genBin o T op ta tb = match binMeth op with
      | some m => .ok (.op2 (.meth m) ta tb)
      | none => userCall o T (binName op) [ta, tb] := by
  cases op <;> rfl

theorem genBin_ne {o : Opts} {T : FTab K} (h : T (binName .ne) = none) (ta tb : CTerm K) :
    genBin o T .ne ta tb = .error (.unknownFunction "<>") := by
  rw [genBin_eq]
  exact userCall_none h _

theorem binMeth_spec {op : BinOp} {m : Meth} (h : binMeth op = some m) :
    methPrim2 m = some op.prim ∧ (m = .mtimes ↔ op = .mul) := by
  cases op <;> cases h <;> exact ⟨rfl, by decide⟩

theorem binMeth_eq_none {op : BinOp} : binMeth op = none ↔ op = .ne := by
  cases op <;> decide

theorem evalOp2_binMeth (P : Prims K) {op : BinOp} {m : Meth} (h : binMeth op = some m) (x y : List K) :
    evalOp2 P (.meth m) x y = semBin P op x y := by
  obtain ⟨hp, hm⟩ := binMeth_spec h
  simp only [evalOp2, semBin, hp, hm, Option.bind_eq_bind, Option.bind_some]

theorem evalC_genBin (P : Prims K) {o : Opts} {T : FTab K} (hS : NoShadow T) {op : BinOp}
    {ta tb c : CTerm K} (h : genBin o T op ta tb = .ok c) (ρ : Env K) :
    evalC P ρ c = (do let x ← evalC P ρ ta; let y ← evalC P ρ tb; semBin P op x y) := by
  rw [genBin_eq] at h
  cases hm : binMeth op with
  | none =>
    rw [hm, userCall_none (hS.bin op)] at h
    cases h
  | some m =>
    rw [hm] at h
    cases h
    simp only [evalC, evalOp2_binMeth P hm]

theorem evalC_genUn {P : Prims K} {o : Opts} {T : FTab K} (hS : NoShadow T) {op : UnOp}
    {ta c : CTerm K} (h : genUn P o T op ta = .ok c) (ρ : Env K) :
    evalC P ρ c = (do let x ← evalC P ρ ta; semUn P op x) := by
  cases op with
  | pos =>
    cases h
    generalize evalC P ρ ta = x
    cases x <;> rfl
  | not =>
    cases h
    simp only [evalC, semUn]
    refine bind_congr fun x => bind_congr fun b => ?_
    cases b <;> rfl
  | elem e =>
    simp only [genUn] at h
    split at h
    · rename_i hh
      cases h
      simp only [evalC, evalOp1, semUn, methPrim1, hh, if_true, Option.bind_eq_bind, Option.bind_some]
    · rw [userCall_none (hS.elem e)] at h
      cases h
  | _ => cases h; rfl

theorem evalMs_cons_inv {P : Prims K} {F : FSem K} {ρ : Env K} {e : MExpr K} {es : MExprs K}
    {vs : List (List K)} (h : evalMs P F ρ (.cons e es) = some vs) :
    ∃ v vs', evalM P F ρ e = some v ∧ evalMs P F ρ es = some vs' ∧ vs = v :: vs' :=
  bind2_eq_some.mp h

mutual
theorem gen_refines {P : Prims K} {o : Opts} {T : FTab K} {F : FSem K} (hT : TabOK P T F)
    (hS : NoShadow T) : ∀ (e : MExpr K) {c : CTerm K}, gen P o T e = .ok c →
    ∀ ρ : Env K, Refines (evalC P ρ c) (evalM P F ρ e)
  | .num q => fun h ρ => by cases h; exact Refines.refl
  | .ref n s => fun h ρ => by cases h; exact Refines.refl
  | .idx i => fun h ρ => by cases h; exact Refines.refl
  | .un op a => fun h ρ => by
    obtain ⟨ta, hta, hc⟩ := bind_ok.mp h
    rw [evalC_genUn hS hc ρ]
    exact Refines.bind (gen_refines hT hS a hta ρ) (fun _ => Refines.refl)
  | .bin op a b => fun h ρ => by
    obtain ⟨ta, hta, h2⟩ := bind_ok.mp h
    obtain ⟨tb, htb, hc⟩ := bind_ok.mp h2
    rw [evalC_genBin P hS hc ρ]
    exact Refines.bind (gen_refines hT hS a hta ρ)
      (fun _ => Refines.bind (gen_refines hT hS b htb ρ) (fun _ => Refines.refl))
  | .ife bs => fun h ρ => by
    obtain ⟨ce, hce, hc⟩ := bind_ok.mp h
    cases hc
    have ih := genBr_refines P o T F hT hS bs ce hce ρ
    rw [foldFromLast_eq_nestAll ih.1.symm]
    exact ih.2
  | .call f args => fun h ρ => by
    obtain ⟨tas, htas, hc⟩ := bind_ok.mp h
    obtain ⟨fn, hTf, rfl⟩ := userCall_ok hc
    obtain ⟨g, hFf, hg⟩ := hT.sem f fn hTf
    simp only [evalC, evalM, evalCs_ofList, hFf, Option.bind_eq_bind, Option.bind_some]
    exact Refines.bind (gens_refines P o T F hT hS args tas htas ρ) hg
  | .delay k e d => fun h ρ => by
    obtain ⟨_, _, _, _, rfl⟩ := bind2_ok.mp h
    exact Refines.refl
theorem gens_refines (P : Prims K) (o : Opts) (T : FTab K) (F : FSem K) (hT : TabOK P T F)
    (hS : NoShadow T) : ∀ (es : MExprs K) (cs : List (CTerm K)), gens P o T es = .ok cs →
    ∀ ρ : Env K, Refines (evalCL P ρ cs) (evalMs P F ρ es)
  | .nil => fun cs h ρ => by cases h; exact Refines.refl
  | .cons e es => fun cs h ρ => by
    obtain ⟨t, ts, ht, hts, rfl⟩ := bind2_ok.mp h
    exact Refines.cons (gen_refines hT hS e ht ρ) (gens_refines P o T F hT hS es ts hts ρ)
theorem genBr_refines (P : Prims K) (o : Opts) (T : FTab K) (F : FSem K) (hT : TabOK P T F)
    (hS : NoShadow T) : ∀ (bs : MBranches K) (ce : List (CTerm K) × List (CTerm K)),
    genBr P o T bs = .ok ce → ∀ ρ : Env K,
    ce.2.length = ce.1.length + 1 ∧ Refines (evalC P ρ (nestAll ce.1 ce.2)) (evalIfe P F ρ bs)
  | .last e => fun ce h ρ => by
    obtain ⟨t, ht, hc⟩ := bind_ok.mp h
    cases hc
    exact ⟨rfl, gen_refines hT hS e ht ρ⟩
  | .cons c e rest => fun ce h ρ => by
    obtain ⟨tc, htc, h2⟩ := bind_ok.mp h
    obtain ⟨te, ce', hte, hce', rfl⟩ := bind2_ok.mp h2
    have ih := genBr_refines P o T F hT hS rest ce' hce' ρ
    exact ⟨congrArg (· + 1) ih.1, Refines.bind (gen_refines hT hS c htc ρ)
      (fun _ => Refines.bind_same (fun _ => Refines.ite (gen_refines hT hS e hte ρ) ih.2))⟩
end

def unSupported : UnOp → Bool
  | .elem e => hasMeth (.elem e)
  | _ => true

def callable (T : FTab K) (f : String) : Bool :=
  match T f with
  | some (.ok _) => true
  | _ => false

mutual
/-- The supported subset: every Modelica operator except `<>`, the elementary functions `MX` knows under
    their Modelica name, if-expressions, calls of functions that translate. -/
def supported (T : FTab K) : MExpr K → Bool
  | .num _ => true
  | .ref _ _ => true
  | .idx _ => true
  | .un op a => unSupported op && supported T a
  | .bin op a b => (op != .ne) && supported T a && supported T b
  | .ife bs => supportedBr T bs
  | .call f args => callable T f && supporteds T args
  | .delay _ e d => supported T e && supported T d
def supporteds (T : FTab K) : MExprs K → Bool
  | .nil => true
  | .cons e es => supported T e && supporteds T es
def supportedBr (T : FTab K) : MBranches K → Bool
  | .last e => supported T e
  | .cons c e rest => supported T c && supported T e && supportedBr T rest
end

theorem userCall_total (o : Opts) (T : FTab K) (f : String) (h : callable T f = true) (args : List (CTerm K)) :
    ∃ c, userCall o T f args = .ok c := by
  unfold callable at h
  unfold userCall
  split at h
  · rename_i fn hT
    exact ⟨_, by rw [hT]⟩
  · cases h

theorem genUn_total (P : Prims K) (o : Opts) (T : FTab K) (op : UnOp) (h : unSupported op = true)
    (ta : CTerm K) : ∃ c, genUn P o T op ta = .ok c := by
  cases op with
  | elem e => exact ⟨_, if_pos h⟩
  | _ => exact ⟨_, rfl⟩

theorem genBin_total (o : Opts) (T : FTab K) (op : BinOp) (hne : op ≠ .ne) (ta tb : CTerm K) :
    ∃ c, genBin o T op ta tb = .ok c := by
  rw [genBin_eq]
  cases hm : binMeth op with
  | some m => exact ⟨_, rfl⟩
  | none => exact absurd (binMeth_eq_none.mp hm) hne

mutual
theorem gen_total_aux (P : Prims K) (o : Opts) (T : FTab K) : ∀ e : MExpr K, supported T e = true →
    ∃ c, gen P o T e = .ok c
  | .num q => fun _ => ⟨_, rfl⟩
  | .ref n s => fun _ => ⟨_, rfl⟩
  | .idx i => fun _ => ⟨_, rfl⟩
  | .un op a => fun h => by
    obtain ⟨hop, ha⟩ := Bool.and_eq_true_iff.mp h
    exact bind_total (gen_total_aux P o T a ha) (genUn_total P o T op hop)
  | .bin op a b => fun h => by
    obtain ⟨hoa, hb⟩ := Bool.and_eq_true_iff.mp h
    obtain ⟨hop, ha⟩ := Bool.and_eq_true_iff.mp hoa
    exact bind_total (gen_total_aux P o T a ha) fun ta =>
      bind_total (gen_total_aux P o T b hb) (genBin_total o T op (bne_iff_ne.mp hop) ta)
  | .ife bs => fun h => bind_total (genBr_total P o T bs h) fun _ => ⟨_, rfl⟩
  | .call f args => fun h => by
    obtain ⟨hf, hargs⟩ := Bool.and_eq_true_iff.mp h
    exact bind_total (gens_total P o T args hargs) (userCall_total o T f hf)
  | .delay k e d => fun h => by
    obtain ⟨he, hd⟩ := Bool.and_eq_true_iff.mp h
    exact bind_total (gen_total_aux P o T e he) fun _ => bind_total (gen_total_aux P o T d hd) fun _ => ⟨_, rfl⟩
theorem gens_total (P : Prims K) (o : Opts) (T : FTab K) : ∀ es : MExprs K, supporteds T es = true →
    ∃ cs, gens P o T es = .ok cs
  | .nil => fun _ => ⟨_, rfl⟩
  | .cons e es => fun h => by
    obtain ⟨he, hes⟩ := Bool.and_eq_true_iff.mp h
    exact bind_total (gen_total_aux P o T e he) fun _ => bind_total (gens_total P o T es hes) fun _ => ⟨_, rfl⟩
theorem genBr_total (P : Prims K) (o : Opts) (T : FTab K) : ∀ bs : MBranches K, supportedBr T bs = true →
    ∃ ce, genBr P o T bs = .ok ce
  | .last e => fun h => bind_total (gen_total_aux P o T e h) fun _ => ⟨_, rfl⟩
  | .cons c e rest => fun h => by
    obtain ⟨hce, hrest⟩ := Bool.and_eq_true_iff.mp h
    obtain ⟨hc, he⟩ := Bool.and_eq_true_iff.mp hce
    exact bind_total (gen_total_aux P o T c hc) fun _ => bind_total (gen_total_aux P o T e he) fun _ =>
      bind_total (genBr_total P o T rest hrest) fun _ => ⟨_, rfl⟩
end

end PymocaVerif.Gen
