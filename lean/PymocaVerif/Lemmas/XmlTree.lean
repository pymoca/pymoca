import PymocaVerif.Model.XmlTree
/-!
Lemmas for C25: `decode` after `encode`, by mutual structural induction.

The model's decoders with string literals in their patterns (`decE`, `decQ`, `decVar`, `decBody`,
`decCls`, `decode`) are slow to generate equation lemmas for: they are unfolded with
`rw [f.eq_def]`, never with `simp [f]` or `rw [f]`.  `takeItem` below has one such pattern, and
its equations are cheap.
-/
namespace PymocaVerif.XmlTree

theorem encEs_eq_map : ∀ es, encEs es = es.map encE
  | [] => rfl
  | e :: es => by rw [encEs, encEs_eq_map es, List.map_cons]

theorem encQs_eq_map : ∀ qs, encQs qs = qs.map encQ
  | [] => rfl
  | q :: qs => by rw [encQs, encQs_eq_map qs, List.map_cons]

theorem okEs_cons {e es} : okEs (e :: es) = true ↔ okE e = true ∧ okEs es = true := by
  rw [okEs, Bool.and_eq_true]

theorem okQs_cons {cfg q qs} : okQs cfg (q :: qs) = true ↔ okQ cfg q = true ∧ okQs cfg qs = true := by
  rw [okQs, Bool.and_eq_true]

theorem noElseQs_cons {q qs} : noElseQs (q :: qs) = true ↔ noElseQ q = true ∧ noElseQs qs = true := by
  rw [noElseQs, Bool.and_eq_true]

theorem encE_op_single (n : String) (a : Expr) :
    encE (.op n [a]) = .node "operator" [("name", n)] [encE a] := by
  simp only [encE, encEs]

theorem encE_op_many (n : String) {args : List Expr} (h : args.length ≠ 1) :
    encE (.op n args) = .node "apply" [("builtin", n)] (encEs args) := by
  match args, h with
  | [], _ => simp only [encE, encEs]
  | a :: b :: r, _ => simp only [encE, encEs]

theorem decE_operator (n : String) (k : Xml) :
    decE (.node "operator" [("name", n)] [k]) = (decE k).map (fun e => .op n [e]) := by
  rw [decE.eq_def]
  simp

theorem decE_apply (n : String) {ks : List Xml} (h : ks.length ≠ 1) :
    decE (.node "apply" [("builtin", n)] ks) = (decEs ks).map (fun es => .op n es) := by
  rw [decE.eq_def]
  match ks, h with
  | [], _ => simp
  | a :: b :: r, _ => simp

mutual
theorem decE_encE : ∀ e, okE e = true → decE (encE e) = some e
  | .lit _, _ | .ref _, _ => by
    rw [decE.eq_def]
    simp [encE]
  | .other k, h => by simp [okE] at h
  | .op n [a], h => by
    have ha : okE a = true := (okEs_cons.1 (by simpa only [okE] using h)).1
    rw [encE_op_single, decE_operator, decE_encE a ha]
    rfl
  | .op n [], _ => by
    rw [encE_op_many n (by decide), decE_apply n (by decide)]
    rfl
  | .op n (a :: b :: r), h => by
    have hl : (encEs (a :: b :: r)).length ≠ 1 := by simp [encEs_eq_map]
    rw [encE_op_many n (by simp), decE_apply n hl,
      decEs_encEs (a :: b :: r) (by simpa only [okE] using h)]
    rfl
theorem decEs_encEs : ∀ es, okEs es = true → decEs (encEs es) = some es
  | [], _ => rfl
  | e :: es, h => by
    simp only [encEs, decEs, decE_encE e (okEs_cons.1 h).1, decEs_encEs es (okEs_cons.1 h).2]
end

theorem okQ_when {cfg : Cfg} {c b ec eb} (h : okQ cfg (.when c b ec eb) = true) :
    okE c = true ∧ okQs cfg b = true ∧ (cfg.rejectElse = true → ec = [] ∧ eb = []) := by
  simp only [okQ, Bool.and_eq_true, Bool.or_eq_true, Bool.not_eq_true', List.isEmpty_iff] at h
  exact ⟨h.1.1.1.1, h.1.1.1.2, fun hc => h.2.resolve_left (by simp [hc])⟩

mutual
theorem decQ_encQ (cfg : Cfg) : ∀ q, okQ cfg q = true → decQ (encQ q) = some (keptQ q)
  | .equal l r, h => by
    have h' : okE l = true ∧ okE r = true := by simpa [okQ] using h
    rw [decQ.eq_def]
    simp [encQ, keptQ, decE_encE l h'.1, decE_encE r h'.2]
  | .call n args, h => by
    have h' : okEs args = true := by simpa [okQ] using h
    rw [decQ.eq_def]
    simp [encQ, keptQ, decEs_encEs args h']
  | .other k, h => by simp [okQ] at h
  | .when c b ec eb, h => by
    obtain ⟨hc, hb, _⟩ := okQ_when h
    rw [decQ.eq_def]
    simp [encQ, keptQ, decE_encE c hc, decQs_encQs cfg b hb]
theorem decQs_encQs (cfg : Cfg) : ∀ qs, okQs cfg qs = true → decQs (encQs qs) = some (keptQs qs)
  | [], _ => rfl
  | q :: qs, h => by
    simp only [encQs, decQs, keptQs, decQ_encQ cfg q (okQs_cons.1 h).1,
      decQs_encQs cfg qs (okQs_cons.1 h).2]
end

theorem okAttr_okE {cfg : Cfg} {e : Expr} (h : okAttr cfg (some e) = true) : okE e = true := by
  cases e with
  | lit _ | ref _ => rfl
  | op _ _ | other _ => exact (Bool.and_eq_true_iff.1 h).2

/-- `decItems` reads each of its optional items with this function: the named item if it comes
    first, otherwise nothing. -/
def takeItem (name : String) (xs : List Xml) : Option (Option Expr × List Xml) :=
  match xs with
  | .node "item" [("name", n)] [k] :: rest =>
    if n = name then (decE k).map (fun e => (some e, rest)) else some (none, xs)
  | _ => some (none, xs)

theorem decItems_eq (items : List Xml) : decItems items =
    match takeItem "start" items with
    | none => none
    | some (st, r1) =>
      match takeItem "value" r1 with
      | none => none
      | some (va, r2) =>
        match r2 with
        | [] => some (st, va, false)
        | [.node "item" [("name", "fixed")] [.node "true" [] []]] => some (st, va, true)
        | _ => none := by
  unfold decItems
  rfl

/-- `xs` is empty or begins with an item of another name: `takeItem name` takes nothing. -/
def Skips (name : String) (xs : List Xml) : Prop :=
  xs = [] ∨ ∃ n ks rest, xs = .node "item" [("name", n)] ks :: rest ∧ n ≠ name

theorem takeItem_miss {name : String} {xs : List Xml} (h : Skips name xs) :
    takeItem name xs = some (none, xs) := by
  unfold takeItem
  split
  · next n k rest =>
    obtain h | ⟨n', _, _, h, hn⟩ := h
    · cases h
    · cases h
      exact if_neg hn
  · rfl

theorem takeItem_encItem (name : String) (o : Option Expr) {rest : List Xml}
    (ho : ∀ e, o = some e → decE (encE e) = some e) (hr : Skips name rest) :
    takeItem name (encItem name o ++ rest) = some (o, rest) := by
  cases o with
  | none => exact takeItem_miss hr
  | some e =>
    rw [encItem, List.singleton_append, takeItem, if_pos rfl, ho e rfl]
    rfl

theorem skips_ite {name n : String} (h : n ≠ name) (b : Bool) (ks : List Xml) :
    Skips name (if b then [.node "item" [("name", n)] ks] else []) := by
  cases b
  · exact .inl rfl
  · exact .inr ⟨n, _, _, rfl, h⟩

theorem skips_encItem {name n : String} (h : n ≠ name) (o : Option Expr) {rest : List Xml}
    (hr : Skips name rest) : Skips name (encItem n o ++ rest) := by
  cases o with
  | none => exact hr
  | some e => exact .inr ⟨n, _, _, rfl, h⟩

theorem decItems_enc (st va : Option Expr) (fx : Bool)
    (hs : ∀ e, st = some e → decE (encE e) = some e)
    (hv : ∀ e, va = some e → decE (encE e) = some e) :
    decItems (encItem "start" st ++ (encItem "value" va ++
      if fx then [.node "item" [("name", "fixed")] [.node "true" [] []]] else [])) =
      some (st, va, fx) := by
  have hf {name : String} (h : "fixed" ≠ name) := skips_ite h fx [.node "true" [] []]
  simp only [decItems_eq, takeItem_encItem "value" va hv (hf (by simp)),
    takeItem_encItem "start" st hs (skips_encItem (n := "value") (by simp) va (hf (by simp)))]
  cases fx <;> simp

theorem decVar_encVar {cfg : Cfg} {v : Var} (h : okVar cfg v = true) :
    decVar (encVar v) = some (keptVar v) := by
  have h' : okAttr cfg v.start = true ∧ okAttr cfg v.value = true := Bool.and_eq_true_iff.1 h
  have hi := decItems_enc v.start v.value v.fixed
    (fun e he => decE_encE e (okAttr_okE (he ▸ h'.1)))
    (fun e he => decE_encE e (okAttr_okE (he ▸ h'.2)))
  rw [decVar.eq_def]
  cases hv : variabilityOf v.prefixes <;> simp [encVar, hi, keptVar, hv]

/-- In front of a non-empty rest the "single `equation` element" alternative does not apply. -/
theorem decBody_cons {k : Xml} {r : List Xml} {v : Var} {vs : List Var} {q : List Eqn}
    (hr : r ≠ []) (hv : decVar k = some v) (h : decBody r = some (vs, q)) :
    decBody (k :: r) = some (v :: vs, q) := by
  obtain ⟨t, ts, rfl⟩ := List.exists_cons_of_ne_nil hr
  rw [decBody.eq_def]
  simp [hv, h]

theorem decBody_enc (cfg : Cfg) (qs : List Eqn) (hq : okQs cfg qs = true) :
    ∀ vs : List Var, vs.all (okVar cfg) = true →
      decBody (vs.map encVar ++ [.node "equation" [] (encQs qs)]) = some (vs.map keptVar, keptQs qs)
  | [], _ => by
    rw [decBody.eq_def]
    simp [decQs_encQs cfg qs hq]
  | v :: vs, h => by
    have h' : okVar cfg v = true ∧ vs.all (okVar cfg) = true := by simpa using h
    exact decBody_cons (by simp) (decVar_encVar h'.1) (decBody_enc cfg qs hq vs h'.2)

theorem decCls_encCls {cfg : Cfg} {c : Cls} (h : okCls cfg c = true) : decCls (encCls c) = some (keptCls c) := by
  have h' : c.vars.all (okVar cfg) = true ∧ okQs cfg c.eqs = true := by simpa [okCls] using h
  rw [decCls.eq_def]
  simp [encCls, keptCls, decBody_enc cfg c.eqs h'.2 c.vars h'.1]

theorem decClss_enc (cfg : Cfg) : ∀ cs : List Cls, cs.all (okCls cfg) = true →
    decClss (cs.map encCls) = some (cs.map keptCls)
  | [], _ => rfl
  | c :: cs, h => by
    have h' : okCls cfg c = true ∧ cs.all (okCls cfg) = true := by simpa using h
    simp [decClss, decCls_encCls h'.1, decClss_enc cfg cs h'.2]

theorem encode_eq_some {cfg : Cfg} {m : Flat} {x : Xml} :
    encode cfg m = some x ↔ m.classes.all (okCls cfg) = true ∧ enc m = x := by
  unfold encode
  split <;> simp [*]

theorem decode_enc {cfg : Cfg} {m : Flat} (h : m.classes.all (okCls cfg) = true) :
    decode (enc m) = some (kept m) := by
  rw [decode.eq_def]
  simp [enc, kept, decClss_enc cfg m.classes h]

mutual
theorem keptQ_self : ∀ q, noElseQ q = true → keptQ q = q
  | .equal l r, _ => rfl
  | .call n a, _ => rfl
  | .other k, _ => rfl
  | .when c b ec eb, h => by
    obtain ⟨⟨hb, rfl⟩, rfl⟩ : (noElseQs b = true ∧ ec = []) ∧ eb = [] := by
      simpa [noElseQ, List.isEmpty_iff] using h
    simp [keptQ, keptQs_self b hb]
theorem keptQs_self : ∀ qs, noElseQs qs = true → keptQs qs = qs
  | [], _ => rfl
  | q :: qs, h => by
    rw [keptQs, keptQ_self q (noElseQs_cons.1 h).1, keptQs_self qs (noElseQs_cons.1 h).2]
end

theorem find?_contains_singleton {l : List String} {w : String} (h : w ∈ l) :
    l.find? (fun v => [w].contains v) = some w := by
  cases hf : l.find? (fun v => [w].contains v) with
  | none => simpa using List.find?_eq_none.1 hf w h
  | some v => simpa using List.find?_some hf

theorem variabilityOf_kept (ps : List String) :
    variabilityOf (variabilityOf ps).toList = variabilityOf ps := by
  cases h : variabilityOf ps with
  | none => rfl
  | some w => exact find?_contains_singleton (List.mem_of_find?_eq_some h)

mutual
theorem noElseQ_of_ok (cfg : Cfg) (hc : cfg.rejectElse = true) : ∀ q, okQ cfg q = true → noElseQ q = true
  | .equal l r, _ => rfl
  | .call n a, _ => rfl
  | .other k, h => by simp [okQ] at h
  | .when c b ec eb, h => by
    obtain ⟨_, hb, he⟩ := okQ_when h
    obtain ⟨rfl, rfl⟩ := he hc
    simp [noElseQ, noElseQs_of_ok cfg hc b hb]
theorem noElseQs_of_ok (cfg : Cfg) (hc : cfg.rejectElse = true) : ∀ qs, okQs cfg qs = true → noElseQs qs = true
  | [], _ => rfl
  | q :: qs, h =>
    noElseQs_cons.2 ⟨noElseQ_of_ok cfg hc q (okQs_cons.1 h).1, noElseQs_of_ok cfg hc qs (okQs_cons.1 h).2⟩
end

theorem noElse_of_encode {cfg : Cfg} (hc : cfg.rejectElse = true) {m : Flat} {x : Xml}
    (h : encode cfg m = some x) : noElse m = true := by
  have hok := (encode_eq_some.1 h).1
  unfold noElse
  rw [List.all_eq_true] at hok ⊢
  intro c hcm
  exact noElseQs_of_ok cfg hc c.eqs (Bool.and_eq_true_iff.1 (hok c hcm)).2

end PymocaVerif.XmlTree
