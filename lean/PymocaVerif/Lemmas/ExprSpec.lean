import PymocaVerif.Model.ExprSpec
import PymocaVerif.Lemmas.ExprGrammar
/-!
# The reference reader (specification grammar) inverts the Modelica printer (C03)

`spec_reads_mprint`: with every sufficiently large fuel `specParse` reads `mprint e` as `strip e`.  By structural
induction on `e`; for every expression the statement is first proved at the expression's own level and then
carried to every other level (`specReads_of_level`).  Core Lean only.
-/
namespace PymocaVerif.ExprGrammar

/-! ### what may follow a nonterminal of level `m`, what may stand in front

What may follow is `Follow modelicaTbl m`: pymoca's levels are the specification's shifted by one
(`modelicaTbl_mlv`), so this says that the next token closes the expression or is a binary operator of a
specification level below `m`. -/

theorem Follow.mlv {m s r} (h : Follow modelicaTbl m (Tok.op s :: r)) : ∃ o, s.bin? = some o ∧ o.mlv.1 < m := by
  obtain ⟨o, ho, hle⟩ := h
  rw [(modelicaTbl_mlv o).1] at hle
  exact ⟨o, ho, hle⟩

theorem follow_of_mlv {o : BOp} {m : Nat} (h : o.mlv.1 < m) (r : List Tok) :
    Follow modelicaTbl m (Tok.op o.sym :: r) :=
  ⟨o, BOp.sym_bin o, by rw [(modelicaTbl_mlv o).1]; exact h⟩

/-- the first token is an atom or `(` -/
def PrimHead : List Tok → Prop
  | Tok.atom _ :: _ => True
  | Tok.lp :: _ => True
  | _ => False

theorem PrimHead.append {P rest} (h : PrimHead P) : PrimHead (P ++ rest) := by
  match P, h with
  | Tok.atom _ :: _, _ => trivial
  | Tok.lp :: _, _ => trivial

/-- the highest level at which a print can begin with this token: `if` only at 0, `not` up to 3 (`logical_factor`),
a sign up to 5 (`arithmetic_expression`); no print begins with another operator or a closing token -/
def Tok.headMax : Tok → Option Nat
  | .atom _ | .lp => some 8
  | .kif => some 0
  | .op .not => some 3
  | .op .plus | .op .minus => some 5
  | _ => none

/-- the text can begin a print at level `m` -/
def HeadAt (m : Nat) (ts : List Tok) : Prop := ∃ t tl k, ts = t :: tl ∧ t.headMax = some k ∧ m ≤ k

theorem HeadAt.anti {m m' ts} (h : HeadAt m ts) (hle : m' ≤ m) : HeadAt m' ts :=
  let ⟨t, tl, k, h1, h2, h3⟩ := h
  ⟨t, tl, k, h1, h2, Nat.le_trans hle h3⟩

theorem HeadAt.append {m P rest} (h : HeadAt m P) : HeadAt m (P ++ rest) :=
  let ⟨t, tl, k, h1, h2, h3⟩ := h
  ⟨t, tl ++ rest, k, by rw [h1]; rfl, h2, h3⟩

theorem HeadAt.ne {m ts t} (h : HeadAt m ts) (ht : ∀ k, t.headMax = some k → k < m) : ∀ r, ts ≠ t :: r := by
  obtain ⟨t', tl, k, rfl, hk, hle⟩ := h
  rintro r ⟨⟩
  exact absurd (ht k hk) (Nat.not_lt.mpr hle)

theorem PrimHead.headAt {ts m} (h : PrimHead ts) (hm : m ≤ 8) : HeadAt m ts := by
  match ts, h with
  | Tok.atom _ :: _, _ | Tok.lp :: _, _ => exact ⟨_, _, 8, rfl, rfl, hm⟩

theorem sloop_stop {m l rest} (h : Follow modelicaTbl m rest) : Ev fun f => sLoop f m l rest = some (l, rest) := by
  refine Ev.of_succ fun f => ?_
  unfold sLoop
  split
  · obtain ⟨o, ho, hlt⟩ := h.mlv
    simp only [ho]
    rw [if_neg (Nat.ne_of_lt hlt)]
  · rfl

theorem sloop_step {m l o r b r' res} (ho : o.mlv.1 = m) (hV : Ev fun f => sLevel f (m+1) r = some (b, r'))
    (hL : Ev fun f => sLoop f m (E.bin o l b) r' = some res) :
    Ev fun f => sLoop f m l (Tok.op o.sym :: r) = some res := by
  refine (hV.and hL).succ fun f ⟨h1, h2⟩ => ?_
  unfold sLoop
  simp only [BOp.sym_bin, ho, if_true, h1]
  exact h2

/-- levels 1, 2, 5, 6: `X { op X }`; at level 5 for a text that does not begin with a sign -/
theorem level_of_loop {m ts x rest res} (hm : LoopLvl m) (hh : HeadAt (m+1) ts)
    (hV : Ev fun f => sLevel f (m+1) ts = some (x, rest)) (hL : Ev fun f => sLoop f m x rest = some res) :
    Ev fun f => sLevel f m ts = some res := by
  refine (hV.and hL).succ fun f ⟨h1, h2⟩ => ?_
  rcases hm with rfl | rfl | rfl | rfl
  · unfold sLevel
    simp only [h1]
    exact h2
  · unfold sLevel
    simp only [h1]
    exact h2
  · unfold sLevel
    simp only
    split
    · exact absurd rfl (hh.ne (t := Tok.op Sym.plus) (by rintro k ⟨⟩; decide) _)
    · exact absurd rfl (hh.ne (t := Tok.op Sym.minus) (by rintro k ⟨⟩; decide) _)
    · simp only [h1]
      exact h2
  · unfold sLevel
    simp only [h1]
    exact h2

theorem sign_level5 {q : POp} (hq : q ≠ POp.not) {ts t rest res}
    (hV : Ev fun f => sLevel f 6 ts = some (t, rest)) (hL : Ev fun f => sLoop f 5 (E.pre q t) rest = some res) :
    Ev fun f => sLevel f 5 (Tok.op q.sym :: ts) = some res := by
  refine (hV.and hL).succ fun f ⟨h1, h2⟩ => ?_
  unfold sLevel
  cases q with
  | not => exact absurd rfl hq
  | pos =>
    simp only [POp.sym, h1]
    exact h2
  | neg =>
    simp only [POp.sym, h1]
    exact h2

theorem level3_not {ts e rest} (hV : Ev fun f => sLevel f 4 ts = some (e, rest)) :
    Ev fun f => sLevel f 3 (Tok.op Sym.not :: ts) = some (E.pre POp.not e, rest) := by
  refine hV.succ fun f hf => ?_
  unfold sLevel
  simp only [hf]

theorem level3_of_4 {ts x rest} (hh : HeadAt 4 ts) (hV : Ev fun f => sLevel f 4 ts = some (x, rest)) :
    Ev fun f => sLevel f 3 ts = some (x, rest) := by
  refine hV.succ fun f h1 => ?_
  unfold sLevel
  simp only
  split
  · exact absurd rfl (hh.ne (t := Tok.op Sym.not) (by rintro k ⟨⟩; decide) _)
  · exact h1

theorem level4_of_5 {ts x rest} (hV : Ev fun f => sLevel f 5 ts = some (x, rest)) (hs : Follow modelicaTbl 4 rest) :
    Ev fun f => sLevel f 4 ts = some (x, rest) := by
  refine hV.succ fun f h1 => ?_
  unfold sLevel
  simp only [h1]
  split
  · next heq =>
    cases heq
    obtain ⟨o, ho, hlt⟩ := hs.mlv
    simp only [ho]
    rw [if_neg (Nat.ne_of_lt hlt)]
  · next heq =>
    cases heq
    rfl
  · next heq => cases heq

theorem level4_rel {o : BOp} (ho : o.mlv.1 = 4) {ts a r b rest}
    (ha : Ev fun f => sLevel f 5 ts = some (a, Tok.op o.sym :: r)) (hb : Ev fun f => sLevel f 5 r = some (b, rest)) :
    Ev fun f => sLevel f 4 ts = some (E.bin o a b, rest) := by
  refine (ha.and hb).succ fun f ⟨h1, h2⟩ => ?_
  unfold sLevel
  simp only [h1, BOp.sym_bin, ho, if_true, h2]

theorem level7_of_primary {ts x rest} (hP : Ev fun f => sPrimary f ts = some (x, rest))
    (hr : ∀ s r, rest = Tok.op s :: r → s.pow? = none) : Ev fun f => sLevel f 7 ts = some (x, rest) := by
  refine hP.succ fun f hf => ?_
  unfold sLevel
  simp only [hf]
  split
  · next heq =>
    cases heq
    rw [hr _ _ rfl]
  · next heq =>
    cases heq
    rfl
  · next heq => cases heq

theorem level7_pow {ts a w mid b rest} (ha : Ev fun f => sPrimary f ts = some (a, Tok.op w.sym :: mid))
    (hb : Ev fun f => sPrimary f mid = some (b, rest)) : Ev fun f => sLevel f 7 ts = some (E.pow w a b, rest) := by
  refine (ha.and hb).succ fun f ⟨h1, h2⟩ => ?_
  unfold sLevel
  simp only [h1, WOp.sym_pow, h2]

theorem sprimary_atom {a rest} (h : ∀ r, rest ≠ Tok.lp :: r) :
    Ev fun f => sPrimary f (Tok.atom a :: rest) = some (E.atom a, rest) := by
  refine Ev.of_succ fun f => ?_
  unfold sPrimary
  simp only
  split
  · exact absurd rfl (h _)
  · exact absurd rfl (h _)
  · rfl

theorem sprimary_paren {B x rest} (hX : Ev fun f => sExpr f (B ++ Tok.rp :: rest) = some (x, Tok.rp :: rest)) :
    Ev fun f => sPrimary f ((Tok.lp :: B ++ [Tok.rp]) ++ rest) = some (x, rest) := by
  refine hX.succ fun f hf => ?_
  unfold sPrimary
  simp only [List.cons_append, List.append_assoc, List.nil_append, hf]

theorem sprimary_call {n ts as rest} (hts : ∀ r, ts ≠ Tok.rp :: r) (hA : Ev fun f => sArgs f ts = some (as, rest)) :
    Ev fun f => sPrimary f (Tok.atom (Atom.ref n) :: Tok.lp :: ts) = some (E.call n as, rest) :=
  hA.succ fun f hf => by simp only [sPrimary, hf]

theorem sexpr_of_level {ts r} (hts : ∀ r', ts ≠ Tok.kif :: r') (h : Ev fun f => sLevel f 1 ts = some r) :
    Ev fun f => sExpr f ts = some r := by
  refine h.succ fun f hf => ?_
  unfold sExpr
  split
  · exact absurd rfl (hts _)
  · exact hf

theorem scond_rule {r c r1 t r2 el r3} (h1 : Ev fun f => sExpr f r = some (c, Tok.kthen :: r1))
    (h2 : Ev fun f => sExpr f r1 = some (t, r2)) (h3 : Ev fun f => sEls f r2 = some (el, r3)) :
    (Ev fun f => sExpr f (Tok.kif :: r) = some (E.ite c t el, r3)) ∧
    (Ev fun f => sEls f (Tok.kelseif :: r) = some (Els.elif c t el, r3)) := by
  have h := h1.and (h2.and h3)
  exact ⟨h.succ fun f ⟨h1, h2, h3⟩ => by simp only [sExpr, h1, h2, h3],
    h.succ fun f ⟨h1, h2, h3⟩ => by simp only [sEls, h1, h2, h3]⟩

theorem sels_els {r e r'} (h : Ev fun f => sExpr f r = some (e, r')) :
    Ev fun f => sEls f (Tok.kelse :: r) = some (Els.els e, r') := by
  refine h.succ fun f hf => ?_
  unfold sEls
  simp only [hf]

theorem sargs_last {ts e r} (h : Ev fun f => sExpr f ts = some (e, Tok.rp :: r)) :
    Ev fun f => sArgs f ts = some (Args.cons e Args.nil, r) := by
  refine h.succ fun f hf => ?_
  unfold sArgs
  simp only [hf]

theorem sargs_cons {ts e r as r'} (h : Ev fun f => sExpr f ts = some (e, Tok.comma :: r))
    (hA : Ev fun f => sArgs f r = some (as, r')) : Ev fun f => sArgs f ts = some (Args.cons e as, r') := by
  refine (h.and hA).succ fun f ⟨h1, h2⟩ => ?_
  unfold sArgs
  simp only [h1, h2]

/-- level `m` reads the text `P` as `x` when nothing of level ≥ m follows -/
def LevelReads (P : List Tok) (x : E) (m : Nat) : Prop :=
  ∀ rest, Follow modelicaTbl m rest → Ev fun f => sLevel f m (P ++ rest) = some (x, rest)

/-- loop level `m` reads the text `P` as `x` and goes on with the repetition -/
def LoopReads (P : List Tok) (x : E) (m : Nat) : Prop :=
  ∀ rest res, Follow modelicaTbl (m+1) rest → (Ev fun f => sLoop f m x rest = some res) →
    Ev fun f => sLevel f m (P ++ rest) = some res

theorem LoopReads.levelReads {P x m} (h : LoopReads P x m) : LevelReads P x m :=
  fun rest hs => h rest _ (hs.mono _ (Nat.le_succ m)) (sloop_stop hs)

theorem down_one {m ts x rest} (hm1 : 1 ≤ m) (hm6 : m ≤ 6) (hh : HeadAt (m+1) ts)
    (hV : Ev fun f => sLevel f (m+1) ts = some (x, rest)) (hs : Follow modelicaTbl m rest) :
    Ev fun f => sLevel f m ts = some (x, rest) := by
  by_cases h3 : m = 3
  · subst h3
    exact level3_of_4 hh hV
  by_cases h4 : m = 4
  · subst h4
    exact level4_of_5 hV hs
  exact level_of_loop (by unfold LoopLvl; omega) hh hV (sloop_stop hs)

theorem down_to {ts x rest m k} (hm1 : 1 ≤ m) (hmk : m ≤ k) (hk7 : k ≤ 7) (hH : HeadAt k ts)
    (hV : Ev fun f => sLevel f k ts = some (x, rest)) (hs : Follow modelicaTbl m rest) :
    Ev fun f => sLevel f m ts = some (x, rest) := by
  induction hmk with
  | refl => exact hV
  | step hle ih =>
    exact ih (Nat.le_of_succ_le hk7) (hH.anti (Nat.le_succ _))
      (down_one (Nat.le_trans hm1 hle) (Nat.le_of_succ_le_succ hk7) hH hV (hs.mono _ hle))

/-- a text that level `k` reads is read by every level below, if its first token allows -/
theorem levels_below {P : List Tok} {x : E} {k : Nat} (hk7 : k ≤ 7) (hH : HeadAt k P) (hV : LevelReads P x k) :
    (∀ m, 1 ≤ m → m ≤ k → LevelReads P x m) ∧ (∀ m, LoopLvl m → m < k → LoopReads P x m) := by
  have hall : ∀ m, 1 ≤ m → m ≤ k → LevelReads P x m := fun m hm1 hmk rest hs =>
    down_to hm1 hmk hk7 hH.append (hV rest (hs.mono _ hmk)) hs
  exact ⟨hall, fun m hl hmk rest res hs hL =>
    level_of_loop hl (hH.append.anti hmk) (hall (m+1) (Nat.le_add_left 1 m) hmk rest hs) hL⟩

theorem levels_of_primary {P : List Tok} {x : E} (hH : PrimHead P)
    (hP : ∀ rest, (∀ r, rest ≠ Tok.lp :: r) → Ev fun f => sPrimary f (P ++ rest) = some (x, rest)) :
    (∀ m, 1 ≤ m → m ≤ 7 → LevelReads P x m) ∧ (∀ m, LoopLvl m → LoopReads P x m) := by
  obtain ⟨h1, h2⟩ := levels_below (k := 7) (Nat.le_refl _) (hH.headAt (by decide))
    (fun rest hs => level7_of_primary (hP rest hs.nolp) hs.nopow)
  exact ⟨h1, fun m hl => h2 m hl (Nat.lt_succ_of_le hl.le_six)⟩

theorem mlevel_le (e : E) : e.mlevel ≤ 8 := by
  cases e with
  | bin o l r => exact Nat.le_trans o.mlv_le_six (by decide)
  | pre q e => cases q <;> exact Nat.le_of_ble_eq_true rfl
  | _ => exact Nat.le_of_ble_eq_true rfl

theorem mpr_head : ∀ (e : E) (m : Nat), m ≤ 8 → HeadAt m (mpr m e)
  | .atom _, _, hm | .paren _, _, hm | .call _ _, _, hm => PrimHead.headAt (by rw [mpr]; trivial) hm
  | .bin o l r, m, hm => by
    have hs := BOp.mlv_shape o
    by_cases h : m ≤ o.mlv.1
    · rw [mpr, if_pos h]
      exact ((mpr_head l o.mlv.2.1 (by omega)).anti (by omega)).append
    · rw [mpr, if_neg h]
      exact PrimHead.headAt trivial hm
  | .pre q e, m, hm => by
    by_cases h : m ≤ q.mlv.1
    · refine ⟨Tok.op q.sym, _, q.mlv.1, by rw [mpr, if_pos h], ?_, h⟩
      cases q <;> rfl
    · rw [mpr, if_neg h]
      exact PrimHead.headAt trivial hm
  | .pow w a b, m, hm => by
    by_cases h : m ≤ 7
    · rw [mpr, if_pos h]
      exact ((mpr_head a 8 (Nat.le_refl _)).anti hm).append
    · rw [mpr, if_neg h]
      exact PrimHead.headAt trivial hm
  | .ite c t r, m, hm => by
    by_cases h : m = 0
    · exact ⟨Tok.kif, _, 0, by rw [mpr, if_pos h], rfl, Nat.le_of_eq h⟩
    · rw [mpr, if_neg h]
      exact PrimHead.headAt trivial hm

theorem mprEls_closer (r : Els) (rest : List Tok) : Closer (mprEls r ++ rest) := by
  cases r <;> rfl

theorem mprArgs_head : ∀ (as : Args), as ≠ Args.nil → ∀ rest r, mprArgs as ++ rest ≠ Tok.rp :: r
  | .nil, h, _, _ => absurd rfl h
  | .cons e .nil, _, rest, r | .cons e (.cons _ _), _, rest, r => by
    rw [mprArgs, List.append_assoc]
    exact (mpr_head e 0 (Nat.zero_le _)).append.ne (by rintro k ⟨⟩) r

/-- `expression` reads the print of `e` in an `expression` position, before a closing token -/
def ExprReads (e : E) : Prop :=
  ∀ rest, Closer rest → Ev fun f => sExpr f (mpr 0 e ++ rest) = some (strip e, rest)
/-- `primary` reads the print of `e` at level 8 (a primary as it is, anything else in parentheses) -/
def PrimaryReads (e : E) : Prop :=
  ∀ rest, (∀ r, rest ≠ Tok.lp :: r) → Ev fun f => sPrimary f (mpr 8 e ++ rest) = some (strip e, rest)
/-- every nonterminal reads the print of `e` at its level as `strip e` -/
structure SpecReads (e : E) : Prop where
  level : ∀ m, 1 ≤ m → m ≤ 7 → LevelReads (mpr m e) (strip e) m
  loop : ∀ m, LoopLvl m → LoopReads (mpr m e) (strip e) m
  expression : ExprReads e
  primary : PrimaryReads e

/-- an expression of a level below 8 is a `primary` in parentheses -/
theorem primaryReads_of_expr (e : E) (h8 : e.mlevel < 8) (hX : ExprReads e) : PrimaryReads e := by
  intro rest _
  rw [mpr_paren e 8 h8 (Nat.le_refl _)]
  exact sprimary_paren (hX (Tok.rp :: rest) rfl)

theorem above_level (e : E) (hP : PrimaryReads e) (h8 : e.mlevel < 8) :
    (∀ m, e.mlevel < m → m ≤ 7 → LevelReads (mpr m e) (strip e) m) ∧
    (∀ m, LoopLvl m → e.mlevel < m → LoopReads (mpr m e) (strip e) m) := by
  have h88 := mpr_paren e 8 h8 (Nat.le_refl _)
  obtain ⟨hV, hA⟩ := levels_of_primary (P := mpr 8 e) (x := strip e) (by rw [h88]; trivial) hP
  constructor
  · intro m hm hm7
    rw [mpr_paren e m hm (by omega), ← h88]
    exact hV m (by omega) hm7
  · intro m hl hm
    rw [mpr_paren e m hm (Nat.le_trans hl.le_six (by decide)), ← h88]
    exact hA m hl

/-- everything follows from what happens at the expression's own level `k` (1 ≤ k ≤ 7) -/
theorem specReads_of_level (e : E) {k : Nat} (hk : e.mlevel = k) (hk1 : 1 ≤ k) (hk7 : k ≤ 7)
    (hV : LevelReads (mpr k e) (strip e) k)
    (hA : LoopLvl k → LoopReads (mpr k e) (strip e) k) : SpecReads e := by
  subst hk
  have hH := mpr_head e e.mlevel (by omega)
  obtain ⟨low, lowA⟩ := levels_below hk7 hH hV
  have hX : ExprReads e := by
    intro rest hc
    rw [mpr_body e 0 (Nat.zero_le _)]
    exact sexpr_of_level ((hH.append.anti hk1).ne (by rintro k ⟨⟩; decide))
      (low 1 (Nat.le_refl _) hk1 rest (hc.follow _))
  have hP : PrimaryReads e := primaryReads_of_expr e (by omega) hX
  obtain ⟨high, highA⟩ := above_level e hP (by omega)
  refine ⟨fun m hm1 hm7 => ?_, fun m hl => ?_, hX, hP⟩
  · by_cases h : m ≤ e.mlevel
    · rw [mpr_body e m h]
      exact low m hm1 h
    · exact high m (by omega) hm7
  · by_cases h : m < e.mlevel
    · rw [mpr_body e m (by omega)]
      exact lowA m hl h
    · by_cases h' : m = e.mlevel
      · subst h'
        exact hA hl
      · exact highA m hl (by omega)

theorem specReads_of_primary (e : E) (hp : e.isPrimary = true) (hP : PrimaryReads e) : SpecReads e := by
  have hm : ∀ m, mpr m e = mpr 8 e := by
    intro m
    cases e <;> first | rfl | cases hp
  have hH : PrimHead (mpr 8 e) := by cases e <;> first | trivial | cases hp
  obtain ⟨hV, hA⟩ := levels_of_primary hH hP
  refine ⟨fun m hm1 hm7 => ?_, fun m hl => ?_, fun rest hc => ?_, hP⟩
  · rw [hm m]
    exact hV m hm1 hm7
  · rw [hm m]
    exact hA m hl
  · rw [hm 0]
    exact sexpr_of_level ((hH.headAt (m := 1) (by decide)).append.ne (by rintro k ⟨⟩; decide))
      (hV 1 (Nat.le_refl _) (by decide) rest (hc.follow _))

/-- a left-associative level: `l op r` with `l` at the same level and `r` one level up -/
theorem bin_loop (o : BOp) (l r : E) (hk : LoopLvl o.mlv.1) (Hl : SpecReads l) (Hr : SpecReads r) :
    LoopReads (mpr o.mlv.1 (.bin o l r)) (strip (.bin o l r)) o.mlv.1 := by
  intro rest res hs hL
  obtain ⟨h1, h2⟩ := loop_op_levels hk rfl
  have hk7 : o.mlv.1 + 1 ≤ 7 := Nat.succ_le_succ o.mlv_le_six
  have := Hl.loop o.mlv.1 hk (Tok.op o.sym :: (mpr (o.mlv.1 + 1) r ++ rest)) res
    (follow_of_mlv (Nat.lt_succ_self _) _)
    (sloop_step rfl (Hr.level (o.mlv.1 + 1) (Nat.le_add_left 1 _) hk7 rest hs) hL)
  simpa only [mpr, h1, h2, Nat.le_refl, if_true, List.append_assoc, List.cons_append] using this

/-- `relation`: `l rel r`, both operands arithmetic expressions -/
theorem bin_rel (o : BOp) (l r : E) (h : o.mlv.1 = 4) (Hl : SpecReads l) (Hr : SpecReads r) :
    LevelReads (mpr 4 (.bin o l r)) (strip (.bin o l r)) 4 := by
  intro rest hs
  have := level4_rel h
    (Hl.level 5 (by decide) (by decide) (Tok.op o.sym :: (mpr 5 r ++ rest)) (follow_of_mlv (by rw [h]; decide) _))
    (Hr.level 5 (by decide) (by decide) rest (hs.mono _ (by decide)))
  simpa only [mpr, strip, BOp.mlv_of_rel h, Nat.le_refl, if_true, List.append_assoc, List.cons_append] using this

/-- a sign: `± term`, and the repetition of level 5 goes on -/
theorem sign_all {q : POp} (hq : q ≠ POp.not) {e : E} (He : SpecReads e) : SpecReads (.pre q e) := by
  have hA : LoopReads (mpr 5 (.pre q e)) (strip (.pre q e)) 5 := by
    intro rest res hs hL
    have := sign_level5 hq (He.level 6 (by decide) (by decide) rest hs) hL
    simpa only [mpr, POp.mlv_sign hq, Nat.le_refl, if_true, List.cons_append] using this
  exact specReads_of_level _ (by rw [E.mlevel, POp.mlv_sign hq]) (by decide) (by decide) hA.levelReads (fun _ => hA)

mutual
theorem spec_all : ∀ (e : E), SpecReads e
  | .atom a => specReads_of_primary _ rfl (fun _ hr => sprimary_atom hr)
  | .paren e => specReads_of_primary _ rfl (fun rest _ => sprimary_paren ((spec_all e).expression (Tok.rp :: rest) rfl))
  | .call fn .nil => specReads_of_primary _ rfl (fun _ _ => Ev.of_succ fun _ => rfl)
  | .call fn (.cons e as) => specReads_of_primary _ rfl (fun rest _ =>
      sprimary_call (mprArgs_head (.cons e as) nofun rest) (spec_all_args (.cons e as) rest nofun))
  | .bin o l r => by
    have Hl := spec_all l
    have Hr := spec_all r
    by_cases h4 : o.mlv.1 = 4
    · exact specReads_of_level _ h4 (by decide) (by decide) (bin_rel o l r h4 Hl Hr)
        (fun hl => absurd rfl hl.ne_four)
    · have hA := bin_loop o l r (BOp.loopLvl h4) Hl Hr
      exact specReads_of_level _ (k := o.mlv.1) rfl o.mlv_pos (Nat.le_succ_of_le o.mlv_le_six) hA.levelReads
        (fun _ => hA)
  | .pre .not e => by
    refine specReads_of_level _ (k := 3) rfl (by decide) (by decide) (fun rest hs => ?_)
      (fun hl => absurd rfl hl.ne_three)
    have := level3_not ((spec_all e).level 4 (by decide) (by decide) rest (hs.mono _ (by decide)))
    simpa only [mpr, strip, POp.mlv, Nat.le_refl, if_true, POp.sym, List.cons_append] using this
  | .pre .neg e | .pre .pos e => sign_all (by decide) (spec_all e)
  | .pow w a b => by
    refine specReads_of_level _ (k := 7) rfl (by decide) (by decide) (fun rest hs => ?_)
      (fun hl => absurd hl.le_six (by decide))
    have := level7_pow ((spec_all a).primary (Tok.op w.sym :: (mpr 8 b ++ rest)) nofun)
      ((spec_all b).primary rest hs.nolp)
    simpa only [mpr, strip, Nat.le_refl, if_true, List.append_assoc, List.cons_append] using this
  | .ite c t r => by
    have hX : ExprReads (.ite c t r) := fun rest hc => by
      have := (scond_rule ((spec_all c).expression (Tok.kthen :: (mpr 0 t ++ (mprEls r ++ rest))) rfl)
        ((spec_all t).expression _ (mprEls_closer r rest)) (spec_all_els r rest hc)).1
      simpa only [mpr, strip, if_true, List.cons_append, List.append_assoc] using this
    have hP : PrimaryReads (.ite c t r) := primaryReads_of_expr _ (Nat.zero_lt_succ _) hX
    obtain ⟨hab, habA⟩ := above_level _ hP (Nat.zero_lt_succ _)
    exact ⟨fun m hm1 hm7 => hab m hm1 hm7,
      fun m hl => habA m hl hl.pos, hX, hP⟩
theorem spec_all_els : ∀ (r : Els) (rest : List Tok), Closer rest →
    Ev fun f => sEls f (mprEls r ++ rest) = some (stripEls r, rest)
  | .els e, rest, hc => sels_els ((spec_all e).expression rest hc)
  | .elif c t r, rest, hc => by
    have := (scond_rule ((spec_all c).expression (Tok.kthen :: (mpr 0 t ++ (mprEls r ++ rest))) rfl)
      ((spec_all t).expression _ (mprEls_closer r rest)) (spec_all_els r rest hc)).2
    simpa only [mprEls, stripEls, List.cons_append, List.append_assoc] using this
theorem spec_all_args : ∀ (as : Args) (rest : List Tok), as ≠ Args.nil →
    Ev fun f => sArgs f (mprArgs as ++ rest) = some (stripArgs as, rest)
  | .nil, _, h => absurd rfl h
  | .cons e .nil, rest, _ => by
    have := sargs_last ((spec_all e).expression (Tok.rp :: rest) rfl)
    simpa only [mprArgs, stripArgs, List.append_assoc, List.singleton_append] using this
  | .cons e (.cons e' r), rest, _ => by
    have := sargs_cons ((spec_all e).expression (Tok.comma :: (mprArgs (.cons e' r) ++ rest)) rfl)
      (spec_all_args (.cons e' r) rest nofun)
    simpa only [mprArgs, stripArgs, List.append_assoc, List.cons_append] using this
end

theorem spec_els : ∀ (r : Els) (rest : List Tok), Closer rest →
    ∃ f, sEls f (mprEls r ++ rest) = some (stripEls r, rest) :=
  fun r rest hc => (spec_all_els r rest hc).exists

theorem spec_args : ∀ (as : Args) (rest : List Tok), as ≠ Args.nil →
    ∃ f, sArgs f (mprArgs as ++ rest) = some (stripArgs as, rest) :=
  fun as rest h => (spec_all_args as rest h).exists

/-- **The specification's grammar reads the Modelica print of `e` as `e`** (up to the `paren` nodes). -/
theorem spec_reads_mprint (e : E) : Ev fun f => specParse f (mprint e) = some (strip e) := by
  refine ((spec_all e).expression [] trivial).imp fun f hf => ?_
  simp only [List.append_nil] at hf
  simp only [specParse, mprint, hf]

end PymocaVerif.ExprGrammar
