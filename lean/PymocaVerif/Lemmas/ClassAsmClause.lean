import PymocaVerif.Model.ClassAsm
/-!
# What a component clause adds to its class

`clauseSyms c sec k` are the symbols, `clauseCtr c k` the counters after the clause (`specClause_ok`).
What `exitComponent_clause` does not write is read off the declarations (`clauseSyms_map`); object
identity goes by tag intervals (`Sym.TagsIn`): tags from disjoint intervals are different objects, and
`copyTail` overwrites all three tags of every symbol but the first, so only the first symbol's tags
have to be followed through the exit.
-/
namespace PymocaVerif.ClassAsm

/-- Counter state `b` is not earlier than `a`. -/
def Leq (a b : Ctr) : Prop := a.symCount ≤ b.symCount ∧ a.nextId ≤ b.nextId

theorem Leq.refl (a : Ctr) : Leq a a := ⟨Nat.le_refl _, Nat.le_refl _⟩
theorem Leq.trans {a b c : Ctr} (h1 : Leq a b) (h2 : Leq b c) : Leq a c :=
  ⟨Nat.le_trans h1.1 h2.1, Nat.le_trans h1.2 h2.2⟩

/-- The symbol's declaration number and object tags were handed out between `lo` and `hi`. -/
def Sym.Between (lo hi : Ctr) (y : Sym) : Prop :=
  lo.symCount ≤ y.order ∧ y.order < hi.symCount ∧ lo.nextId ≤ y.typeId ∧ y.typeId < hi.nextId ∧
  lo.nextId ≤ y.dimsId ∧ y.dimsId < hi.nextId ∧ lo.nextId ≤ y.prefId ∧ y.prefId < hi.nextId

def Sym.TagsIn (lo hi : Nat) (y : Sym) : Prop :=
  lo ≤ y.typeId ∧ y.typeId < hi ∧ lo ≤ y.dimsId ∧ y.dimsId < hi ∧ lo ≤ y.prefId ∧ y.prefId < hi

theorem Sym.Between.tags {lo hi : Ctr} {y : Sym} (h : y.Between lo hi) : y.TagsIn lo.nextId hi.nextId := h.2.2

theorem Sym.TagsIn.le {lo hi : Nat} {y : Sym} (h : y.TagsIn lo hi) : lo ≤ hi :=
  Nat.le_of_lt (Nat.lt_of_le_of_lt h.1 h.2.1)

theorem Sym.TagsIn.mono {lo hi lo' hi' : Nat} {y : Sym} (h : y.TagsIn lo hi) (h1 : lo' ≤ lo) (h2 : hi ≤ hi') :
    y.TagsIn lo' hi' :=
  ⟨Nat.le_trans h1 h.1, Nat.lt_of_lt_of_le h.2.1 h2, Nat.le_trans h1 h.2.2.1, Nat.lt_of_lt_of_le h.2.2.2.1 h2,
    Nat.le_trans h1 h.2.2.2.2.1, Nat.lt_of_lt_of_le h.2.2.2.2.2 h2⟩

theorem Sym.TagsIn.distinct {a b c d : Nat} {y z : Sym} (hy : y.TagsIn a b) (hz : z.TagsIn c d) (h : b ≤ c) :
    y.Distinct z :=
  ⟨Nat.ne_of_lt (Nat.lt_of_lt_of_le hy.2.1 (Nat.le_trans h hz.1)),
    Nat.ne_of_lt (Nat.lt_of_lt_of_le hy.2.2.2.1 (Nat.le_trans h hz.2.2.1)),
    Nat.ne_of_lt (Nat.lt_of_lt_of_le hy.2.2.2.2.2 (Nat.le_trans h hz.2.2.2.2.1))⟩

theorem Sym.Between.mono {lo hi lo' hi' : Ctr} {y : Sym} (h : y.Between lo hi) (h1 : Leq lo' lo) (h2 : Leq hi hi') :
    y.Between lo' hi' :=
  ⟨Nat.le_trans h1.1 h.1, Nat.lt_of_lt_of_le h.2.1 h2.1, h.tags.mono h1.2 h2.2⟩

theorem Sym.Between.distinct {a b c d : Ctr} {y z : Sym} (hy : y.Between a b) (hz : z.Between c d) (h : Leq b c) :
    y.Distinct z ∧ y.order < z.order :=
  ⟨hy.tags.distinct hz.tags h.2, Nat.lt_of_lt_of_le hy.2.1 (Nat.le_trans h.1 hz.1)⟩

theorem Sym.Distinct.symm {y z : Sym} (h : y.Distinct z) : z.Distinct y :=
  ⟨Ne.symm h.1, Ne.symm h.2.1, Ne.symm h.2.2⟩

/-- The symbol a declarator stands for when its declaration is exited. -/
def declSym (cl : ClauseSt) (sec : Nat) (k : Ctr) (d : Decl) : Sym :=
  { declExit d.dims d.mod k.nextId (newSym cl d.name k.symCount sec) with comment := d.comment }

def declCtr (k : Ctr) (d : Decl) : Ctr := ⟨k.symCount + 1, .none, k.nextId + dimsAlloc d.dims⟩

def declSyms (cl : ClauseSt) (sec : Nat) : List Decl → Ctr → List Sym
  | [], _ => []
  | d :: t, k => declSym cl sec k d :: declSyms cl sec t (declCtr k d)

def declsCtr : List Decl → Ctr → Ctr
  | [], k => k
  | d :: t, k => declsCtr t (declCtr k d)

theorem specDecl_ok {cl : ClauseSt} {names : List String} {sec : Nat} {k : Ctr} {d : Decl} {y : Sym} {k' : Ctr} :
    specDecl cl names sec k d = .ok (y, k') ↔ d.name ∉ names ∧ y = declSym cl sec k d ∧ k' = declCtr k d := by
  unfold specDecl
  split
  · next h => simp only [reduceCtorEq, h, not_true_eq_false, false_and]
  · next h => simp only [Except.ok.injEq, Prod.mk.injEq, h, not_false_eq_true, true_and, eq_comm]; rfl

theorem specDecl_err {cl : ClauseSt} {names : List String} {sec : Nat} {k : Ctr} {d : Decl} {e : Err} :
    specDecl cl names sec k d = .error e ↔ d.name ∈ names ∧ e = .alreadyDefined d.name := by
  unfold specDecl
  split
  · next h => simp only [Except.error.injEq, h, true_and, eq_comm]
  · next h => simp only [reduceCtorEq, h, false_and]

/-- A declarator's symbol before the clause is exited: own subscripts get a fresh `dimensions` object,
    everything else is shared with the clause. -/
theorem declSym_eq (cl : ClauseSt) (sec : Nat) (k : Ctr) (d : Decl) :
    declSym cl sec k d =
      { name := d.name, type := [], typeId := cl.typeId, prefixes := cl.prefixes, prefId := cl.prefId,
        dims := dimsSpec none d.dims, dimsId := if d.dims.isSome then k.nextId else cl.dimsId,
        comment := d.comment, order := k.symCount, vis := .priv, cmod := applyMod none d.mod, sec := sec } := by
  unfold declSym declExit newSym dimsSpec
  cases d.dims <;> rfl

theorem declCtr_nextId (k : Ctr) (d : Decl) :
    (declCtr k d).nextId = if d.dims.isSome then k.nextId + 1 else k.nextId := by
  unfold declCtr dimsAlloc
  cases d.dims <;> rfl

theorem declSyms_map {β} {cl : ClauseSt} {sec : Nat} (g : Sym → β) (g' : Decl → β)
    (hg : ∀ k d, g (declSym cl sec k d) = g' d) (ds : List Decl) (k : Ctr) :
    (declSyms cl sec ds k).map g = ds.map g' := by
  induction ds generalizing k with
  | nil => rfl
  | cons d t ih => simp only [declSyms, List.map_cons, hg, ih]

theorem declSyms_names (cl : ClauseSt) (sec : Nat) (ds : List Decl) (k : Ctr) :
    (declSyms cl sec ds k).map (·.name) = ds.map (·.name) :=
  declSyms_map _ _ (fun k d => by rw [declSym_eq]) ds k

theorem declSyms_length (cl : ClauseSt) (sec : Nat) (ds : List Decl) (k : Ctr) :
    (declSyms cl sec ds k).length = ds.length := by
  simpa using congrArg List.length (declSyms_names cl sec ds k)

theorem declSyms_views (cl : ClauseSt) (sec : Nat) (ds : List Decl) (k : Ctr) :
    (declSyms cl sec ds k).map Sym.view =
      ds.map fun d => ⟨d.name, [], cl.prefixes, dimsSpec none d.dims, d.comment, applyMod none d.mod⟩ :=
  declSyms_map _ _ (fun k d => by rw [declSym_eq]; rfl) ds k

theorem declsCtr_symCount (ds : List Decl) (k : Ctr) : (declsCtr ds k).symCount = k.symCount + ds.length := by
  induction ds generalizing k with
  | nil => rfl
  | cons d t ih => simp only [declsCtr, ih, declCtr, List.length_cons]; omega

theorem declsCtr_nextId (ds : List Decl) (k : Ctr) : k.nextId ≤ (declsCtr ds k).nextId := by
  induction ds generalizing k with
  | nil => exact Nat.le_refl _
  | cons d t ih => exact Nat.le_trans (Nat.le_add_right _ _) (ih (declCtr k d))

theorem declsCtr_node (ds : List Decl) (k : Ctr) (h : ds ≠ []) : (declsCtr ds k).node = .none := by
  induction ds generalizing k with
  | nil => exact absurd rfl h
  | cons d t ih =>
    cases t with
    | nil => rfl
    | cons d' t' => exact ih (declCtr k d) (List.cons_ne_nil _ _)

theorem declSyms_order (cl : ClauseSt) (sec : Nat) (ds : List Decl) (k : Ctr) :
    (declSyms cl sec ds k).map (·.order) = List.range' k.symCount ds.length := by
  induction ds generalizing k with
  | nil => rfl
  | cons d t ih => simp only [declSyms, List.map_cons, ih, declSym_eq, List.length_cons, List.range'_succ]; rfl

theorem declSyms_tags (cl : ClauseSt) (sec : Nat) (ds : List Decl) (k : Ctr) :
    ∀ y ∈ declSyms cl sec ds k, y.typeId = cl.typeId ∧ y.prefId = cl.prefId ∧
      (y.dimsId = cl.dimsId ∨ (k.nextId ≤ y.dimsId ∧ y.dimsId < (declsCtr ds k).nextId)) := by
  induction ds generalizing k with
  | nil =>
    intro y hy
    cases hy
  | cons d t ih =>
    have hk := declsCtr_nextId t (declCtr k d)
    have hd := declCtr_nextId k d
    intro y hy
    rcases List.mem_cons.mp hy with rfl | hy
    · rw [declSym_eq]
      refine ⟨rfl, rfl, ?_⟩
      simp only [declsCtr]
      split
      · next hs =>
        rw [if_pos hs] at hd
        exact Or.inr ⟨Nat.le_refl _, by omega⟩
      · exact Or.inl rfl
    · obtain ⟨h1, h2, h3⟩ := ih _ y hy
      refine ⟨h1, h2, h3.imp_right fun h => ⟨?_, h.2⟩⟩
      split at hd <;> omega

/-- The intermediate list `s2` of `clauseExit`: type filled in, clause-level subscripts joined. -/
def clauseS2 (ty : List String) (cd : Option (List Expr)) (cid nid : Nat) (l : List Sym) : List Sym :=
  match cd with
  | some d => joinDims d cid nid (nid + 1) (l.map fun y => { y with type := ty })
  | none => l.map fun y => { y with type := ty }

theorem copyTail_map {β} (g : Sym → β) (hg : ∀ y a b c, g { y with dimsId := a, prefId := b, typeId := c } = g y)
    (n : Nat) (l : List Sym) : (copyTail n l).map g = l.map g := by
  induction l generalizing n with
  | nil => rfl
  | cons y t ih => simp only [copyTail, List.map_cons, hg, ih]

theorem joinDims_map {β} (g : Sym → β) (g' : Sym → List (List Expr) → β)
    (hg : ∀ y a b, g { y with dims := a, dimsId := b } = g' y a) (d : List Expr) (cid nid m : Nat) (l : List Sym) :
    (joinDims d cid nid m l).map g = l.map fun y => g' y (if y.dimsId = cid then [d] else y.dims ++ [d]) := by
  induction l generalizing m with
  | nil => rfl
  | cons y t ih =>
    simp only [joinDims, List.map_cons, ih]
    split <;> rw [hg]

theorem copyTail_head_tags (y : Sym) (n : Nat) :
    Sym.TagsIn n (n + 3) { y with dimsId := n, prefId := n + 1, typeId := n + 2 } :=
  ⟨Nat.le_add_right n 2, Nat.lt_succ_self (n + 2), Nat.le_refl n, Nat.lt_add_of_pos_right (by decide),
    Nat.le_add_right n 1, Nat.add_lt_add_left (by decide) n⟩

theorem copyTail_tags (n : Nat) (l : List Sym) :
    (copyTail n l).Pairwise Sym.Distinct ∧ ∀ z ∈ copyTail n l, z.TagsIn n (n + 3 * l.length) := by
  induction l generalizing n with
  | nil => exact ⟨.nil, List.forall_mem_nil _⟩
  | cons y t ih =>
    have hy := copyTail_head_tags y n
    obtain ⟨hp, ht⟩ := ih (n + 3)
    refine ⟨.cons (fun z hz => hy.distinct (ht z hz) (Nat.le_refl _)) hp, fun z hz => ?_⟩
    rcases List.mem_cons.mp hz with rfl | hz
    · exact hy.mono (Nat.le_refl _) (by simp only [List.length_cons]; omega)
    · exact (ht z hz).mono (by omega) (by simp only [List.length_cons]; omega)

/-- The source view of a symbol after `exitComponent_clause`. -/
def exitView (ty : List String) (cd : Option (List Expr)) (cid : Nat) (y : Sym) : SymView :=
  { y.view with type := ty, dims := match cd with
      | some d => if y.dimsId = cid then [d] else y.dims ++ [d]
      | none => y.dims }

section
variable (ty : List String) (cd : Option (List Expr)) (cid nid : Nat) (l : List Sym)

theorem clauseExit_eq :
    clauseExit ty cd cid nid l =
      match clauseS2 ty cd cid nid l with
      | [] => []
      | y0 :: ys => y0 :: copyTail (nid + cdimsAlloc cd l.length) ys := by
  unfold clauseExit clauseS2
  cases cd <;> rfl

theorem clauseS2_map {β} (g : Sym → β) (hg : ∀ y a b c, g { y with type := a, dims := b, dimsId := c } = g y) :
    (clauseS2 ty cd cid nid l).map g = l.map g := by
  have ht : (l.map fun y => { y with type := ty }).map g = l.map g := by
    rw [List.map_map]
    exact List.map_congr_left fun y _ => hg y ty y.dims y.dimsId
  unfold clauseS2
  cases cd with
  | none => exact ht
  | some d => rw [joinDims_map g (fun y _ => g y) (fun y a b => hg y y.type a b), ht]

theorem clauseExit_map {β} (g : Sym → β) (hg : ∀ y a b c, g { y with dimsId := a, prefId := b, typeId := c } = g y) :
    (clauseExit ty cd cid nid l).map g = (clauseS2 ty cd cid nid l).map g := by
  rw [clauseExit_eq]
  cases clauseS2 ty cd cid nid l with
  | nil => rfl
  | cons y0 ys => simp only [List.map_cons, copyTail_map g hg]

theorem clauseS2_head_tags {lo : Nat} {z0 : Sym} {zs : List Sym} (h : ∀ y ∈ l, y.TagsIn lo nid)
    (hs : clauseS2 ty cd cid nid l = z0 :: zs) : z0.TagsIn lo (nid + cdimsAlloc cd l.length) := by
  cases l with
  | nil => cases cd <;> cases hs
  | cons y t =>
    have hy := h y (List.mem_cons_self ..)
    have hlo : lo ≤ nid := hy.le
    cases cd with
    | none => cases hs; exact hy
    | some d =>
      have hy := hy.mono (Nat.le_refl lo) (hi' := nid + (1 + (y :: t).length)) (Nat.le_add_right _ _)
      simp only [clauseS2, List.map_cons, joinDims, List.cons.injEq] at hs
      rw [← hs.1]
      -- `dimensions` becomes the clause's new object `nid`, or the list `nid + 1` reserved for this symbol
      split
      · exact ⟨hy.1, hy.2.1, hlo, Nat.lt_add_of_pos_right (Nat.add_pos_left Nat.one_pos _), hy.2.2.2.2⟩
      · exact ⟨hy.1, hy.2.1, Nat.le_succ_of_le hlo,
          Nat.add_lt_add_left (Nat.lt_add_of_pos_right (Nat.succ_pos _)) nid, hy.2.2.2.2⟩

theorem clauseExit_tags {lo : Nat}
    (h : ∀ y ∈ l, y.TagsIn lo nid) :
    (clauseExit ty cd cid nid l).Pairwise Sym.Distinct ∧
    ∀ z ∈ clauseExit ty cd cid nid l, z.TagsIn lo (nid + clauseExitAlloc cd l.length) := by
  have hs := @clauseS2_head_tags ty cd cid nid l lo
  have hlen : (clauseS2 ty cd cid nid l).length = l.length := by
    simpa using congrArg List.length (clauseS2_map ty cd cid nid l (·.order) fun _ _ _ _ => rfl)
  rw [clauseExit_eq]
  generalize clauseS2 ty cd cid nid l = s2 at hs hlen
  cases s2 with
  | nil => exact ⟨.nil, fun z hz => nomatch hz⟩
  | cons z0 zs =>
    have h0 := hs h rfl
    obtain ⟨hp, ht⟩ := copyTail_tags (nid + cdimsAlloc cd l.length) zs
    have hal : nid + clauseExitAlloc cd l.length = nid + cdimsAlloc cd l.length + 3 * zs.length := by
      unfold clauseExitAlloc
      rw [← hlen, List.length_cons]
      omega
    rw [hal]
    refine ⟨.cons (fun z hz => h0.distinct (ht z hz) (Nat.le_refl _)) hp, fun z hz => ?_⟩
    rcases List.mem_cons.mp hz with rfl | hz
    · exact h0.mono (Nat.le_refl _) (Nat.le_add_right _ _)
    · exact (ht z hz).mono h0.le (Nat.le_refl _)

theorem clauseExit_views :
    (clauseExit ty cd cid nid l).map Sym.view = l.map (exitView ty cd cid) := by
  rw [clauseExit_map ty cd cid nid l Sym.view fun _ _ _ _ => rfl]
  unfold clauseS2
  cases cd with
  | none =>
    rw [List.map_map]
    rfl
  | some d =>
    rw [joinDims_map Sym.view (fun y a => { y.view with dims := a }) (fun _ _ _ => rfl), List.map_map]
    rfl

end

/-- `cl.dimsId` is older than every tag handed out during the declarations, so "holds the default
    dimensions object" means "has no subscripts of its own". -/
theorem declSyms_exitViews (cl : ClauseSt) (sec : Nat) (ty : List String) (cd : Option (List Expr))
    (ds : List Decl) (k : Ctr) (hk : cl.dimsId < k.nextId) :
    (declSyms cl sec ds k).map (exitView ty cd cl.dimsId) =
      ds.map fun d => ⟨d.name, ty, cl.prefixes, dimsSpec cd d.dims, d.comment, applyMod none d.mod⟩ := by
  induction ds generalizing k with
  | nil => rfl
  | cons d t ih =>
    simp only [declSyms, List.map_cons]
    rw [ih _ (Nat.lt_of_lt_of_le hk (Nat.le_add_right _ _)), declSym_eq]
    congr 1
    unfold exitView Sym.view
    cases cd with
    | none => rfl
    | some c =>
      cases d.dims with
      | none =>
        simp only [Option.isSome_none, Bool.false_eq_true, if_false, if_true]
        rfl
      | some o =>
        simp only [Option.isSome_some, if_true, Nat.ne_of_gt hk, if_false]
        rfl

def clauseSt (c : Clause) (k : Ctr) : ClauseSt := ⟨c.prefixes, k.nextId, k.nextId + 1, k.nextId + 2, []⟩
def clauseK3 (k : Ctr) : Ctr := { k with nextId := k.nextId + 3 }

/-- The symbols a component clause adds to its class. -/
def clauseSyms (c : Clause) (sec : Nat) (k : Ctr) : List Sym :=
  clauseExit c.type c.cdims (k.nextId + 2) (declsCtr c.decls (clauseK3 k)).nextId
    (declSyms (clauseSt c k) sec c.decls (clauseK3 k))

def clauseCtr (c : Clause) (k : Ctr) : Ctr :=
  { declsCtr c.decls (clauseK3 k) with
    nextId := (declsCtr c.decls (clauseK3 k)).nextId + clauseExitAlloc c.cdims c.decls.length }

@[simp] theorem declSym_name (cl : ClauseSt) (sec : Nat) (k : Ctr) (d : Decl) : (declSym cl sec k d).name = d.name := by
  rw [declSym_eq]

/-- Names that are new and distinct, added in two parts. -/
theorem fresh_append {N n1 n2 : List String} :
    (n1 ++ n2).Nodup ∧ (∀ n ∈ n1 ++ n2, n ∉ N) ↔
      (n1.Nodup ∧ ∀ n ∈ n1, n ∉ N) ∧ (n2.Nodup ∧ ∀ n ∈ n2, n ∉ N ++ n1) := by
  simp only [List.nodup_append, List.mem_append, not_or]
  constructor
  · rintro ⟨⟨h1, h2, h3⟩, h4⟩
    exact ⟨⟨h1, fun n hn => h4 n (Or.inl hn)⟩, h2, fun n hn => ⟨h4 n (Or.inr hn), fun hn1 => h3 n hn1 n hn rfl⟩⟩
  · rintro ⟨⟨h1, h4⟩, h2, h5⟩
    exact ⟨⟨h1, h2, fun a ha b hb e => (h5 b hb).2 (e ▸ ha)⟩, fun n hn => hn.elim (h4 n) fun hn => (h5 n hn).1⟩

theorem fresh_cons {N t : List String} {x : String} :
    (x :: t).Nodup ∧ (∀ n ∈ x :: t, n ∉ N) ↔ x ∉ N ∧ t.Nodup ∧ ∀ n ∈ t, n ∉ N ++ [x] :=
  fresh_append (n1 := [x]).trans (and_congr_left' (by simp))

theorem specDecls_ok {cl : ClauseSt} {names : List String} {sec : Nat} {ds : List Decl} {acc : List Sym} {k : Ctr}
    {syms : List Sym} {k' : Ctr} :
    specDecls cl names sec ds acc k = .ok (syms, k') ↔
      ((ds.map (·.name)).Nodup ∧ ∀ n ∈ ds.map (·.name), n ∉ names ++ acc.map (·.name)) ∧
      syms = acc ++ declSyms cl sec ds k ∧ k' = declsCtr ds k := by
  induction ds generalizing acc k with
  | nil => simp [specDecls, declSyms, declsCtr, eq_comm]
  | cons d t ih =>
    simp only [specDecls]
    cases h : specDecl cl (names ++ acc.map (·.name)) sec k d with
    | error e =>
      simp only [reduceCtorEq, false_iff]
      exact fun hc => hc.1.2 d.name (List.mem_cons_self ..) (specDecl_err.mp h).1
    | ok p =>
      obtain ⟨y, k1⟩ := p
      obtain ⟨hn, rfl, rfl⟩ := specDecl_ok.mp h
      simp only [ih, List.map_cons, fresh_cons, hn, not_false_eq_true, true_and, List.map_append, List.map_nil,
        declSym_name, List.append_assoc, declSyms, declsCtr, List.singleton_append]

theorem specClause_ok {c : Clause} {f f' : Frame} {k k' : Ctr} :
    specClause c f k = .ok (f', k') ↔
      c.names.Nodup ∧ (∀ n ∈ c.names, n ∉ f.info.symbols.map (·.name)) ∧
      f' = { f with info := { f.info with symbols := f.info.symbols ++ clauseSyms c f.closed.length k } } ∧
      k' = clauseCtr c k := by
  have hd := @specDecls_ok (clauseSt c k) (f.info.symbols.map (·.name)) f.closed.length c.decls [] (clauseK3 k)
  rw [List.map_nil, List.append_nil, List.nil_append] at hd
  unfold specClause
  simp only []
  split
  · next syms k1 h =>
    obtain ⟨hf, rfl, rfl⟩ := hd.mp h
    simp only [Except.ok.injEq, Prod.mk.injEq, declSyms_length]
    exact ⟨fun ⟨e1, e2⟩ => ⟨hf.1, hf.2, e1.symm, e2.symm⟩, fun ⟨_, _, e1, e2⟩ => ⟨e1.symm, e2.symm⟩⟩
  · next e h =>
    simp only [reduceCtorEq, false_iff]
    intro ⟨h1, h2, _⟩
    cases h.symm.trans (hd.mpr ⟨⟨h1, h2⟩, rfl, rfl⟩)

theorem clauseSyms_map {β} {c : Clause} {sec : Nat} {k : Ctr} (g : Sym → β)
    (hg : ∀ y a b c d e, g { y with type := a, dims := b, dimsId := c, prefId := d, typeId := e } = g y) :
    (clauseSyms c sec k).map g = (declSyms (clauseSt c k) sec c.decls (clauseK3 k)).map g :=
  (clauseExit_map _ _ _ _ _ g fun y => hg y y.type y.dims).trans
    (clauseS2_map _ _ _ _ _ g fun y a b c => hg y a b c y.prefId y.typeId)

section
variable (c : Clause) (sec : Nat) (k : Ctr)

theorem clauseSyms_views : (clauseSyms c sec k).map Sym.view = c.views := by
  unfold clauseSyms Clause.views
  rw [clauseExit_views]
  exact declSyms_exitViews (clauseSt c k) sec c.type c.cdims c.decls (clauseK3 k) (Nat.lt_succ_self _)

theorem clauseSyms_names : (clauseSyms c sec k).map (·.name) = c.names :=
  (clauseSyms_map (·.name) fun _ _ _ _ _ _ => rfl).trans (declSyms_names ..)

theorem clauseSyms_order :
    (clauseSyms c sec k).map (·.order) = List.range' k.symCount c.decls.length :=
  (clauseSyms_map (·.order) fun _ _ _ _ _ _ => rfl).trans (declSyms_order ..)

theorem clauseSyms_sec :
    (clauseSyms c sec k).map (·.sec) = List.replicate c.decls.length sec :=
  (clauseSyms_map (·.sec) fun _ _ _ _ _ _ => rfl).trans
    ((declSyms_map _ (fun _ => sec) (fun k d => by rw [declSym_eq]) ..).trans List.map_const')

theorem clauseSyms_vis :
    (clauseSyms c sec k).map (·.vis) = List.replicate c.decls.length .priv :=
  (clauseSyms_map (·.vis) fun _ _ _ _ _ _ => rfl).trans
    ((declSyms_map _ (fun _ => .priv) (fun k d => by rw [declSym_eq]) ..).trans List.map_const')

theorem clauseCtr_symCount : (clauseCtr c k).symCount = k.symCount + c.decls.length :=
  declsCtr_symCount c.decls (clauseK3 k)

theorem clauseCtr_leq : Leq k (clauseCtr c k) :=
  ⟨by rw [clauseCtr_symCount]; exact Nat.le_add_right _ _,
    Nat.le_trans (Nat.le_add_right _ 3) (Nat.le_trans (declsCtr_nextId c.decls (clauseK3 k)) (Nat.le_add_right _ _))⟩

theorem clauseSyms_ids :
    (clauseSyms c sec k).Pairwise (fun a b => a.Distinct b ∧ a.order < b.order) ∧
    ∀ y ∈ clauseSyms c sec k, y.Between k (clauseCtr c k) := by
  have hk := declsCtr_nextId c.decls (clauseK3 k)
  have htags := clauseExit_tags c.type c.cdims (k.nextId + 2) (declsCtr c.decls (clauseK3 k)).nextId
    (declSyms (clauseSt c k) sec c.decls (clauseK3 k)) (lo := k.nextId) (fun y hy => by
      obtain ⟨h1, h2, h3⟩ := declSyms_tags _ _ _ _ y hy
      simp only [clauseSt, clauseK3, Sym.TagsIn] at h1 h2 h3 hk ⊢
      omega)
  rw [declSyms_length] at htags
  have hord := clauseSyms_order c sec k
  constructor
  · refine htags.1.and ?_
    have := List.pairwise_lt_range' (s := k.symCount) (n := c.decls.length)
    rw [← hord, List.pairwise_map] at this
    exact this
  · intro y hy
    have ho : y.order ∈ List.range' k.symCount c.decls.length := hord ▸ List.mem_map_of_mem hy
    rw [List.mem_range'_1] at ho
    exact ⟨ho.1, by rw [clauseCtr_symCount]; exact ho.2, htags.2 y hy⟩

end

end PymocaVerif.ClassAsm
