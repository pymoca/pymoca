import PymocaVerif.Model.PyGrammar
/-!
# Parse ∘ print for the table-driven grammar (C24)

`Printed T p e ts`: `ts` is a legal printing of `e` in a context of level `p` (necessary
parentheses present, redundant ones allowed).  `parse_printed`: every legal printing at level 0
parses back to `e`, for every table satisfying `Tbl.WF`, with the explicit fuel of `parseAll`.
The induction over `Printed` proves `Absorbs`, a statement in continuation style, and carries
what may follow the printed text (`Follow`).
-/
namespace PymocaVerif.PyGrammar

structure Tbl.WF (T : Tbl) : Prop where
  lvl_le_llvl : ∀ o, T.lvl o ≤ T.llvl o
  lvl_le_rlvl : ∀ o, T.lvl o ≤ T.rlvl o
  flvl_le_llvl : ∀ o, T.flvl o ≤ T.llvl o
  stop_r : ∀ o o', T.flvl o' ≤ T.lvl o → T.lvl o' < T.rlvl o
  stop_p : ∀ q o', T.flvl o' ≤ T.plvl q → T.lvl o' < T.plvl q

inductive Printed (T : Tbl) : Nat → E → List Tok → Prop
  | atom (p : Nat) (a : Atom) : Printed T p (E.atom a) [Tok.atom a]
  | bin (p o : Nat) (l r : E) (tl tr : List Tok) : p ≤ T.lvl o →
      Printed T (T.llvl o) l tl → Printed T (T.rlvl o) r tr →
      Printed T p (E.bin o l r) (tl ++ Tok.bop o :: tr)
  | pre (p q : Nat) (e : E) (t : List Tok) : p ≤ T.plvl q →
      Printed T (T.plvl q) e t → Printed T p (E.pre q e) (Tok.pop q :: t)
  | call (p : Nat) (g : Name) (e : E) (t : List Tok) :
      Printed T 0 e t → Printed T p (E.call g e) (Tok.fn g :: Tok.lp :: t ++ [Tok.rp])
  | der (p : Nat) (e : E) (t : List Tok) :
      Printed T 0 e t → Printed T p (E.der e) (Tok.lp :: t ++ [Tok.rp, Tok.diff])
  | paren (p : Nat) (e : E) (t : List Tok) :
      Printed T 0 e t → Printed T p e (Tok.lp :: t ++ [Tok.rp])

section
variable {T : Tbl}

/-- `F` returns `res` with every fuel from `n` on.  All parsing facts below are stated in this
    upward-closed form, so that fuels of sub-derivations can simply be added up. -/
def From {α : Type} (F : Nat → Option α) (n : Nat) (res : α) : Prop :=
  ∀ g, n ≤ g → F g = some res

theorem From.mono {α : Type} {F : Nat → Option α} {n m res} (h : From F n res) (hle : n ≤ m) :
    From F m res :=
  fun g hg => h g (Nat.le_trans hle hg)

theorem From.succ {α : Type} {F : Nat → Option α} {n res}
    (h : ∀ g, n ≤ g → F (g + 1) = some res) : From F (n + 1) res := by
  intro g hg
  obtain ⟨g, rfl⟩ := Nat.exists_eq_add_one.2 (Nat.lt_of_lt_of_le (Nat.succ_pos n) hg)
  exact h g (Nat.le_of_succ_le_succ hg)

theorem parseE_of {n m p ts l r res} (h1 : From (parsePrim T · ts) n (l, r))
    (h2 : From (parseLoop T · p l r) m res) : From (parseE T · p ts) (n + m + 1) res :=
  .succ fun g hg => by simp only [parseE, h1 g (by omega), h2 g (by omega)]

theorem loop_take {n m p o l r rt r' res} (hp : p ≤ T.lvl o)
    (h1 : From (parseE T · (T.rlvl o) r) n (rt, r'))
    (h2 : From (parseLoop T · p (E.bin o l rt) r') m res) :
    From (parseLoop T · p l (Tok.bop o :: r)) (n + m + 1) res :=
  .succ fun g hg => by simp only [parseLoop, hp, if_true, h1 g (by omega), h2 g (by omega)]

theorem prim_atom {a r} : From (parsePrim T · (Tok.atom a :: r)) 1 (E.atom a, r) :=
  .succ fun g _ => by simp only [parsePrim]

theorem prim_paren {n r e r'} (h : From (parseE T · 0 r) n (e, Tok.rp :: r'))
    (hnd : ∀ t, r' ≠ Tok.diff :: t) : From (parsePrim T · (Tok.lp :: r)) (n + 1) (e, r') :=
  .succ fun g hg => by
    -- `hnd` discharges the side condition of the second alternative of the `match`
    simp only [parsePrim, h g hg]

theorem prim_der {n r e r'} (h : From (parseE T · 0 r) n (e, Tok.rp :: Tok.diff :: r')) :
    From (parsePrim T · (Tok.lp :: r)) (n + 1) (E.der e, r') :=
  .succ fun g hg => by simp only [parsePrim, h g hg]

theorem prim_call {n f r e r'} (h : From (parseE T · 0 r) n (e, Tok.rp :: r')) :
    From (parsePrim T · (Tok.fn f :: Tok.lp :: r)) (n + 1) (E.call f e, r') :=
  .succ fun g hg => by simp only [parsePrim, h g hg]

theorem prim_pre {n q r e r'} (h : From (parseE T · (T.plvl q) r) n (e, r')) :
    From (parsePrim T · (Tok.pop q :: r)) (n + 1) (E.pre q e, r') :=
  .succ fun g hg => by simp only [parsePrim, h g hg]

variable (T) in
/-- What may follow text printed in a context of level `p`: never `.diff(self.t)`, and a binary
    operator only if it may follow such text. -/
def Follow (p : Nat) (rest : List Tok) : Prop :=
  (∀ o t, rest = Tok.bop o :: t → T.flvl o ≤ p) ∧ ∀ t, rest ≠ Tok.diff :: t

variable (T) in
/-- A loop of level `p` stops in front of `rest`. -/
def Stops (p : Nat) (rest : List Tok) : Prop :=
  ∀ o t, rest = Tok.bop o :: t → T.lvl o < p

theorem Follow.mono {p p' rest} (h : Follow T p rest) (hle : p ≤ p') : Follow T p' rest :=
  ⟨fun o t e => Nat.le_trans (h.1 o t e) hle, h.2⟩

theorem Follow.bop {p o t} (h : T.flvl o ≤ p) : Follow T p (Tok.bop o :: t) :=
  ⟨fun _ _ e => by cases e; exact h, nofun⟩

theorem Follow.rp {p r} : Follow T p (Tok.rp :: r) := ⟨nofun, nofun⟩

theorem Stops.rp {p r} : Stops T p (Tok.rp :: r) := nofun

theorem stops_of_follow {p q rest} (h : Follow T p rest)
    (hlt : ∀ o, T.flvl o ≤ p → T.lvl o < q) : Stops T q rest :=
  fun o t e => hlt o (h.1 o t e)

theorem loop_stop {p l rest} (h : Stops T p rest) : From (parseLoop T · p l rest) 1 (l, rest) :=
  .succ fun g _ => by
    unfold parseLoop
    split
    · next heq => cases heq
    · next o r _ => exact if_neg (Nat.not_le.2 (h o r rfl))
    · rfl

variable (T) in
/-- The invariant of the round trip: `ts` followed by `rest` is consumed by any enclosing loop of
    level `p0 ≤ p` exactly like the tree `e` itself; three units of fuel per token suffice. -/
def Absorbs (p : Nat) (e : E) (ts : List Tok) : Prop :=
  ∀ {p0 rest res f}, p0 ≤ p → Follow T p rest → From (parseLoop T · p0 e rest) f res →
    From (parseE T · p0 (ts ++ rest)) (f + 3 * ts.length) res

/-- An operand: the loop at the operand's own level stops right behind it. -/
theorem Absorbs.operand {p e ts rest} (h : Absorbs T p e ts) (hfol : Follow T p rest)
    (hs : Stops T p rest) : From (parseE T · p (ts ++ rest)) (1 + 3 * ts.length) (e, rest) :=
  h (Nat.le_refl p) hfol (loop_stop hs)

/-- A primary around a printed operand of `t` tokens takes three more units of fuel than the
    operand, and has at least one more token. -/
theorem wrap_fuel {f t n : Nat} (h : t < n) : 1 + 3 * t + 1 + f + 1 ≤ f + 3 * n := by
  omega

theorem absorb (hT : T.WF) {p : Nat} {e : E} {ts : List Tok} (h : Printed T p e ts) :
    Absorbs T p e ts := by
  induction h with
  | atom p a =>
    intro p0 rest res f _ _ hf
    exact (parseE_of prim_atom hf).mono (by simp only [List.length_singleton]; omega)
  | bin p o l r tl tr hp _ _ ihl ihr =>
    intro p0 rest res f hp0 hfol hf
    have hr := ihr.operand (hfol.mono (Nat.le_trans hp (hT.lvl_le_rlvl o)))
      (stops_of_follow hfol fun o' ho' => hT.stop_r o o' (Nat.le_trans ho' hp))
    have hl := ihl (Nat.le_trans hp0 (Nat.le_trans hp (hT.lvl_le_llvl o)))
      (.bop (hT.flvl_le_llvl o)) (loop_take (Nat.le_trans hp0 hp) hr hf)
    simp only [List.append_assoc, List.cons_append, List.length_append, List.length_cons]
    exact hl.mono (by omega)
  | pre p q e t hp _ ih =>
    intro p0 rest res f hp0 hfol hf
    have he := ih.operand (hfol.mono hp)
      (stops_of_follow hfol fun o' ho' => hT.stop_p q o' (Nat.le_trans ho' hp))
    exact (parseE_of (prim_pre he) hf).mono (wrap_fuel (by simp +arith))
  | call p g e t _ ih =>
    intro p0 rest res f hp0 hfol hf
    have he := ih.operand (rest := Tok.rp :: rest) .rp .rp
    simp only [List.append_assoc, List.cons_append, List.nil_append]
    exact (parseE_of (prim_call he) hf).mono (wrap_fuel (by simp +arith))
  | der p e t _ ih =>
    intro p0 rest res f hp0 hfol hf
    have he := ih.operand (rest := Tok.rp :: Tok.diff :: rest) .rp .rp
    simp only [List.append_assoc, List.cons_append, List.nil_append]
    exact (parseE_of (prim_der he) hf).mono (wrap_fuel (by simp +arith))
  | paren p e t _ ih =>
    intro p0 rest res f hp0 hfol hf
    have he := ih.operand (rest := Tok.rp :: rest) .rp .rp
    simp only [List.append_assoc, List.cons_append, List.nil_append]
    exact (parseE_of (prim_paren he hfol.2) hf).mono (wrap_fuel (by simp +arith))

end

variable (T : Tbl)

theorem parse_printed (hT : T.WF) {e : E} {ts : List Tok} (h : Printed T 0 e ts) :
    parseAll T ts = some e := by
  have := absorb hT h (rest := []) (Nat.le_refl 0) ⟨nofun, nofun⟩ (loop_stop nofun)
    (3 * ts.length + 1) (by omega)
  rw [List.append_nil] at this
  simp only [parseAll, this]

theorem Printed.weaken {p p' e ts} (h : Printed T p e ts) (hle : p' ≤ p) : Printed T p' e ts := by
  cases h with
  | atom => exact .atom _ _
  | bin _ o l r tl tr hp hl hr => exact .bin _ o l r tl tr (by omega) hl hr
  | pre _ q e t hp he => exact .pre _ q e t (by omega) he
  | call _ g e t he => exact .call _ g e t he
  | der _ e t he => exact .der _ e t he
  | paren _ e t he => exact .paren _ e t he

theorem printed_prMin : ∀ (e : E) (p : Nat), Printed T p e (prMin T p e) := by
  intro e
  induction e with
  | atom a => exact fun p => .atom p a
  | bin o l r ihl ihr =>
    intro p
    by_cases hp : p ≤ T.lvl o
    · simp only [prMin, hp, if_true]
      exact .bin _ o l r _ _ hp (ihl _) (ihr _)
    · simp only [prMin, hp, if_false]
      exact .paren _ _ _ (.bin _ o l r _ _ (Nat.zero_le _) (ihl _) (ihr _))
  | pre q e ih =>
    intro p
    by_cases hp : p ≤ T.plvl q
    · simp only [prMin, hp, if_true]
      exact .pre _ q e _ hp (ih _)
    · simp only [prMin, hp, if_false]
      exact .paren _ _ _ (.pre _ q e _ (Nat.zero_le _) (ih _))
  | call g e ih => exact fun p => .call p g e _ (ih 0)
  | der e ih => exact fun p => .der p e _ (ih 0)

theorem printed_prCur (e : E) : ∀ p, NoParen T p e → Printed T p e (prCur e) := by
  induction e with
  | atom a => exact fun p _ => .atom p a
  | bin o l r ihl ihr => exact fun p ⟨hp, hl, hr⟩ => .bin p o l r _ _ hp (ihl _ hl) (ihr _ hr)
  | pre q e ih => exact fun p ⟨hp, he⟩ => .pre p q e _ hp (ih _ he)
  | call g e ih => exact fun p h => .call p g e _ (ih 0 h)
  | der e ih => exact fun p h => .der p e _ (ih 0 h)

theorem noParenB_iff : ∀ (e : E) (p : Nat), noParenB T p e = true ↔ NoParen T p e := by
  intro e p
  fun_induction noParenB T p e <;> simp [NoParen, and_assoc, *]

theorem printed_wrapIf {T : Tbl} {m : Nat} {e : E}
    (h : ∀ p, e.compound = false ∨ p ≤ m → Printed T p e (prFix e)) (p : Nat) :
    Printed T p e (wrapIf e.compound (prFix e)) := by
  cases hc : e.compound with
  | false => exact h p (.inl hc)
  | true => exact .paren _ _ _ (h 0 (.inr (Nat.zero_le m)))

/-- `prFix` parenthesises every compound operand, so its output is legal for every table whose
    operator levels are all at least `m`, in every context of level at most `m` — and in any
    context at all if the node is not compound. -/
theorem printed_prFix {T : Tbl} {m : Nat} (hl : ∀ o, m ≤ T.lvl o) (hq : ∀ q, m ≤ T.plvl q) :
    ∀ (e : E) (p : Nat), e.compound = false ∨ p ≤ m → Printed T p e (prFix e)
  | .atom a, p, _ => .atom p a
  | .bin o l r, p, hp =>
    .bin p o l r _ _ (Nat.le_trans (hp.resolve_left nofun) (hl o))
      (printed_wrapIf (printed_prFix hl hq l) _) (printed_wrapIf (printed_prFix hl hq r) _)
  | .pre q e, p, hp =>
    .pre p q e _ (Nat.le_trans (hp.resolve_left nofun) (hq q)) (printed_wrapIf (printed_prFix hl hq e) _)
  | .call g e, p, _ => .call p g e _ (printed_prFix hl hq e 0 (.inr (Nat.zero_le m)))
  | .der e, p, _ => .der p e _ (printed_prFix hl hq e 0 (.inr (Nat.zero_le m)))

theorem printed_prEq {T : Tbl} {pr : E → List Tok} {l r : E}
    (hl : Printed T (T.llvl 1) l (pr l)) (hr : Printed T 0 r (pr r)) :
    Printed T 0 (eqTree l r) (prEq pr l r) := by
  simpa only [prEq, eqTree, List.append_assoc, List.cons_append] using
    Printed.bin 0 1 l r _ _ (Nat.zero_le _) hl (.paren _ _ _ hr)

theorem pyTbl_rows (o : Nat) :
    (pyTbl.lvl o = 1 ∧ pyTbl.llvl o = 1 ∧ pyTbl.rlvl o = 2 ∧ pyTbl.flvl o = 1) ∨
    (pyTbl.lvl o = 2 ∧ pyTbl.llvl o = 2 ∧ pyTbl.rlvl o = 3 ∧ pyTbl.flvl o = 2) ∨
    (pyTbl.lvl o = 3 ∧ pyTbl.llvl o = 4 ∧ pyTbl.rlvl o = 3 ∧ pyTbl.flvl o = 4) := by
  simp only [pyTbl]
  by_cases h1 : o ≤ 1
  · simp [h1]
  · by_cases h3 : o ≤ 3 <;> simp [h1, h3]

theorem pyTbl_wf : pyTbl.WF where
  lvl_le_llvl o := by
    have := pyTbl_rows o
    omega
  lvl_le_rlvl o := by
    have := pyTbl_rows o
    omega
  flvl_le_llvl o := by
    have := pyTbl_rows o
    omega
  stop_r o o' := by
    have := pyTbl_rows o
    have := pyTbl_rows o'
    omega
  stop_p q o' := by
    show pyTbl.flvl o' ≤ 3 → pyTbl.lvl o' < 3
    have := pyTbl_rows o'
    omega

theorem pyTbl_lvl_pos (o : Nat) : 1 ≤ pyTbl.lvl o := by
  have := pyTbl_rows o
  omega

theorem pyTbl_plvl_pos (q : Nat) : 1 ≤ pyTbl.plvl q := by
  show 1 ≤ 3
  decide

end PymocaVerif.PyGrammar
