import PymocaVerif.Lemmas.Connect
/-!
# The heap reading of `flow_connections` refines the value reading

Object identities, `update` and item assignment in place, references re-pointed: after any edge
list the dereferenced association list is the value-level one and the sets emitted are the same.
-/
namespace PymocaVerif.Connect

theorem Heap.obj_alloc {κ : Type} (h : Heap κ) (i : Nat) :
    ({ h with objs := h.objs ++ [[]] } : Heap κ).obj i = h.obj i := by
  unfold Heap.obj
  by_cases hi : i < h.objs.length
  · rw [List.getElem?_append_left hi]
  · rw [List.getElem?_eq_none (Nat.le_of_not_lt hi), List.getElem?_append_right (Nat.le_of_not_lt hi)]
    cases i - h.objs.length <;> rfl

theorem Heap.obj_set {κ : Type} {objs : List (List κ)} {j : Nat} (hj : j < objs.length)
    (s : List κ) (fc fc' : List (κ × Nat)) (i : Nat) :
    Heap.obj ⟨objs.set j s, fc⟩ i = if i = j then s else Heap.obj ⟨objs, fc'⟩ i := by
  unfold Heap.obj
  rw [List.getElem?_set, if_pos hj]
  by_cases hi : i = j
  · rw [if_pos hi, if_pos hi.symm]
    rfl
  · rw [if_neg hi, if_neg (Ne.symm hi)]

section HeapRef
variable {κ : Type} [DecidableEq κ]

theorem get?_view (h : Heap κ) (k : κ) : get? h.view k = (get? h.fc k).map h.obj :=
  get?_map_val h.obj h.fc k

omit [DecidableEq κ] in
theorem keys_view (h : Heap κ) : keys h.view = keys h.fc := keys_map_val h.obj h.fc

theorem get?_view_of {h : Heap κ} {k : κ} {i : Nat} (hk : get? h.fc k = some i) :
    get? h.view k = some (h.obj i) := by
  rw [get?_view, hk]
  rfl

theorem Heap.lookupOrAlloc_fc (h : Heap κ) (k : κ) : (h.lookupOrAlloc k).2.fc = h.fc := by
  unfold Heap.lookupOrAlloc
  split <;> rfl

theorem Heap.lookupOrAlloc_obj (h : Heap κ) (k : κ) (i : Nat) :
    (h.lookupOrAlloc k).2.obj i = h.obj i := by
  unfold Heap.lookupOrAlloc
  split
  · rfl
  · exact Heap.obj_alloc h i

theorem Heap.lookupOrAlloc_view (h : Heap κ) (k : κ) : (h.lookupOrAlloc k).2.view = h.view := by
  rw [Heap.view, Heap.lookupOrAlloc_fc]
  exact List.map_congr_left fun e _ => by rw [Heap.lookupOrAlloc_obj]

theorem Heap.lookupOrAlloc_len (h : Heap κ) (k : κ) :
    h.objs.length ≤ (h.lookupOrAlloc k).2.objs.length := by
  unfold Heap.lookupOrAlloc
  split
  · exact Nat.le_refl _
  · rw [List.length_append]
    exact Nat.le_add_right _ _

theorem Heap.obj_lookupOrAlloc (h : Heap κ) (k : κ) :
    h.obj (h.lookupOrAlloc k).1 = getD h.view k := by
  unfold getD Heap.lookupOrAlloc
  rw [get?_view]
  cases get? h.fc k with
  | some i => rfl
  | none => exact congrArg (Option.getD · []) (List.getElem?_eq_none (Nat.le_refl _))

/-- Valid references: every key points at an allocated object. -/
def Heap.Valid (h : Heap κ) : Prop := ∀ k i, get? h.fc k = some i → i < h.objs.length

theorem Heap.lookupOrAlloc_id (h : Heap κ) (hv : h.Valid) (k : κ) :
    (h.lookupOrAlloc k).1 < (h.lookupOrAlloc k).2.objs.length ∧
    ((get? h.fc k = some (h.lookupOrAlloc k).1) ∨
     (get? h.fc k = none ∧ h.objs.length ≤ (h.lookupOrAlloc k).1)) := by
  unfold Heap.lookupOrAlloc
  cases hg : get? h.fc k with
  | some i => exact ⟨hv k i hg, Or.inl rfl⟩
  | none => exact ⟨by rw [List.length_append]; exact Nat.lt_succ_self _, Or.inr ⟨rfl, Nat.le_refl _⟩⟩

/-- Anatomy of one heap step: the merged set is the one of the value reading; exactly the object
    `lid` changes (to the merged set); every member is pointed at `lid`. -/
theorem Heap.step_anatomy (h : Heap κ) (hv : h.Valid) (l r : κ) :
    ∃ lid, lid < (h.step l r).objs.length ∧ h.objs.length ≤ (h.step l r).objs.length ∧
      (get? h.fc l = some lid ∨ (get? h.fc l = none ∧ h.objs.length ≤ lid)) ∧
      (h.step l r).fc = (mergedSet h.view l r).foldl (fun fc k => setEntry fc k lid) h.fc ∧
      ∀ i, (h.step l r).obj i = if i = lid then mergedSet h.view l r else h.obj i := by
  have ha := h.lookupOrAlloc_id hv l
  have hlen := (h.lookupOrAlloc l).2.lookupOrAlloc_len r
  -- allocation changes neither the references nor the contents, so both reads are the value reads
  simp only [Heap.step, Heap.lookupOrAlloc_obj, Heap.obj_lookupOrAlloc, Heap.lookupOrAlloc_view,
    Heap.lookupOrAlloc_fc, ← mergedSet.eq_1]
  refine ⟨(h.lookupOrAlloc l).1, ?_, ?_, ha.2, rfl, fun i => ?_⟩
  · rw [List.length_set]
    exact Nat.lt_of_lt_of_le ha.1 hlen
  · rw [List.length_set]
    exact Nat.le_trans (h.lookupOrAlloc_len l) hlen
  · exact (Heap.obj_set (Nat.lt_of_lt_of_le ha.1 hlen) _ _ _ i).trans (ite_congr rfl (fun _ => rfl)
      fun _ => ((h.lookupOrAlloc l).2.lookupOrAlloc_obj r i).trans (h.lookupOrAlloc_obj l i))

/-- Heap states reachable by the pass: references are valid, following them gives the
    association list of the value reading, and all members of an object point at that object. -/
structure HeapInv (es : List (κ × κ)) (h : Heap κ) : Prop where
  valid : h.Valid
  view : h.view = connectAll [] es
  shared : ∀ k i k', get? h.fc k = some i → k' ∈ h.obj i → get? h.fc k' = some i

theorem HeapInv.empty : HeapInv ([] : List (κ × κ)) (Heap.empty : Heap κ) where
  valid _ _ := nofun
  view := rfl
  shared _ _ _ := nofun

namespace HeapInv
variable {es : List (κ × κ)} {h : Heap κ} (hi : HeapInv es h)
include hi

theorem mapInv : MapInv es h.view := hi.view ▸ MapInv.of_run es

theorem self_mem {k : κ} {i : Nat} (hk : get? h.fc k = some i) : k ∈ h.obj i :=
  (hi.mapInv.comp k _ (get?_view_of hk) k).2 (.refl k)

/-- The object the step writes to is not the object of any key outside the merged set: it is
    either the object of `l`, whose members are merged, or a fresh one. -/
theorem id_ne {l r : κ} {lid : Nat}
    (hl : get? h.fc l = some lid ∨ (get? h.fc l = none ∧ h.objs.length ≤ lid))
    {k : κ} {i : Nat} (hk : get? h.fc k = some i) (hS : k ∉ mergedSet h.view l r) : i ≠ lid := by
  rintro rfl
  rcases hl with hl | ⟨_, hl⟩
  · exact hS (mem_mergedSet.2 (.inl (.inl (mem_getD.2 ⟨_, get?_view_of hl, hi.self_mem hk⟩))))
  · exact Nat.not_lt.2 hl (hi.valid k i hk)

theorem view_step (l r : κ) : (h.step l r).view = connectStep h.view l r := by
  obtain ⟨lid, _, _, hl, hfc, hobj⟩ := h.step_anatomy hi.valid l r
  have hkeys : keys (h.step l r).view = keys (connectStep h.view l r) := by
    rw [keys_view, hfc, keys_foldl_setEntry, keys_connectStep, keys_view]
  refine assoc_ext _ _ hkeys ?_ fun k => ?_
  · rw [hkeys, keys_connectStep]
    exact nodup_update hi.mapInv.keysNodup
  · rw [Connect.get?_view, hfc, get?_foldl_setEntry, get?_connectStep, Connect.get?_view]
    by_cases hk : k ∈ mergedSet h.view l r
    · rw [if_pos hk, if_pos hk, Option.map_some, hobj, if_pos rfl]
    · rw [if_neg hk, if_neg hk]
      cases hg : get? h.fc k with
      | none => rfl
      | some i => rw [Option.map_some, Option.map_some, hobj, if_neg (hi.id_ne hl hg hk)]

theorem step (l r : κ) : HeapInv (es ++ [(l, r)]) (h.step l r) := by
  obtain ⟨lid, hlt, hle, hl, hfc, hobj⟩ := h.step_anatomy hi.valid l r
  have hget : ∀ k i, get? (h.step l r).fc k = some i ↔
      (k ∈ mergedSet h.view l r ∧ i = lid) ∨ (k ∉ mergedSet h.view l r ∧ get? h.fc k = some i) :=
    fun k i => by rw [hfc, get?_foldl_setEntry_eq_some]
  refine ⟨fun k i hk => ?_, ?_, fun k i k' hk hk' => ?_⟩
  · rcases (hget k i).1 hk with ⟨_, rfl⟩ | ⟨_, hk⟩
    · exact hlt
    · exact Nat.lt_of_lt_of_le (hi.valid k i hk) hle
  · rw [hi.view_step, hi.view, connectAll_append]
    rfl
  · rw [hobj] at hk'
    rcases (hget k i).1 hk with ⟨_, rfl⟩ | ⟨hS, hk⟩
    · rw [if_pos rfl] at hk'
      exact (hget k' i).2 (.inl ⟨hk', rfl⟩)
    · -- `k'` lies in the old object of `k`, so in its old component, which the merged set misses
      rw [if_neg (hi.id_ne hl hk hS)] at hk'
      have c := (hi.mapInv.comp k _ (get?_view_of hk) k').1 hk'
      exact (hget k' i).2 (.inr ⟨fun h' => hS (hi.mapInv.mergedSet_closed c.symm h'),
        hi.shared k i k' hk hk'⟩)

theorem sets_eq : h.sets = distinctSets h.view := by
  have nd : (keys h.fc).Nodup := keys_view h ▸ hi.mapInv.keysNodup
  rw [Heap.sets, Heap.distinctIds_eq, distinctSets_eq, map_update, Heap.view, List.map_map,
    List.map_map]
  · rfl
  · -- distinct live objects have distinct contents: a key of the one is a member of the other
    intro i hi' j hj e
    obtain ⟨⟨k, _⟩, hk, rfl⟩ := List.mem_map.1 ((mem_update.1 hi').resolve_left List.not_mem_nil)
    obtain ⟨⟨k', _⟩, hk', rfl⟩ := List.mem_map.1 ((mem_update.1 hj).resolve_left List.not_mem_nil)
    have hk := (get?_eq_some_iff nd).2 hk
    have hk' := (get?_eq_some_iff nd).2 hk'
    exact Option.some.inj (hk.symm.trans (hi.shared _ _ k hk' (e ▸ hi.self_mem hk)))

theorem sets_run : h.sets = distinctSets (connectAll [] es) :=
  hi.view ▸ hi.sets_eq

end HeapInv

theorem HeapInv.of_run (es : List (κ × κ)) : HeapInv es ((Heap.empty : Heap κ).run es) :=
  foldl_append_inv (P := HeapInv) (fun _ _ e hi => hi.step e.1 e.2) HeapInv.empty es

end HeapRef

theorem heapStore_run (inp : Input) :
    heapStore.sets (heapStore.run inp) = valueStore.sets (valueStore.run inp) :=
  (HeapInv.of_run (flowEdges inp.edges)).sets_run

end PymocaVerif.Connect
