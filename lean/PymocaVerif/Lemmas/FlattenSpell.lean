import PymocaVerif.Model.FlattenSrc
import PymocaVerif.Lemmas.FlattenBasics
/-! Stage 1 (`Model/FlattenSrc.lean`).  Spelled modifications: desugaring does not see the spelling, so
    nothing computed from the desugared lists does.  Type names: at which level `findLevel` finds one. -/
namespace PymocaVerif.Flatten

theorem desugarList_append (pre : Path) (a b : List SMod) :
    desugarList pre (a ++ b) = desugarList pre a ++ desugarList pre b := by
  induction a with
  | nil => simp [desugarList]
  | cons m ms ih => simp [desugarList, ih]

theorem desugar_nestName (pre : Path) (name : List Name) (subs : List SMod) (v : Option Expr) :
    (nestName name subs v).desugar pre = desugarList (pre ++ name) subs ++ optMod (pre ++ name) v := by
  induction name generalizing pre with
  | nil => simp [nestName, SMod.desugar]
  | cons n ns ih =>
    cases ns with
    | nil => simp [nestName, SMod.desugar]
    | cons n' ns' =>
      simp only [nestName, SMod.desugar, desugarList, List.append_nil]
      rw [ih (pre ++ [n])]
      simp [optMod]

mutual
  theorem desugar_toNested (pre : Path) : (m : SMod) → m.toNested.desugar pre = m.desugar pre
    | .mk name subs value => by
      simp only [SMod.toNested, SMod.desugar]
      rw [desugar_nestName, desugarList_toNested (pre ++ name) subs]
  theorem desugarList_toNested (pre : Path) : (ms : List SMod) → desugarList pre (toNestedList ms) = desugarList pre ms
    | [] => by simp [toNestedList, desugarList]
    | m :: ms => by
      simp only [toNestedList, desugarList]
      rw [desugar_toNested pre m, desugarList_toNested pre ms]
end

mutual
  theorem desugar_toDotted (pre0 pre : Path) : (m : SMod) →
      desugarList pre0 (m.toDotted pre) = m.desugar (pre0 ++ pre)
    | .mk name subs value => by
      simp only [SMod.toDotted, SMod.desugar, desugarList_append]
      rw [desugarList_toDotted pre0 (pre ++ name) subs]
      cases value <;> simp [desugarList, SMod.desugar, optMod, List.append_assoc]
  theorem desugarList_toDotted (pre0 pre : Path) : (ms : List SMod) →
      desugarList pre0 (toDottedList pre ms) = desugarList (pre0 ++ pre) ms
    | [] => by simp [toDottedList, desugarList]
    | m :: ms => by
      simp only [toDottedList, desugarList, desugarList_append]
      rw [desugar_toDotted pre0 pre m, desugarList_toDotted pre0 pre ms]
end

/-- a respelling: a function on spelled modification lists that desugaring cannot see -/
def Respelling (f : List SMod → List SMod) : Prop := ∀ pre ms, desugarList pre (f ms) = desugarList pre ms

theorem respelling_toNested : Respelling toNestedList := fun pre ms => desugarList_toNested pre ms

theorem respelling_toDotted : Respelling (toDottedList []) := fun pre ms => by
  simpa using desugarList_toDotted pre [] ms

mutual
  theorem paths_respell (f : List SMod → List SMod) (pre : Path) : (c : SClass) → (c.respell f).paths pre = c.paths pre
    | .mk name kind alias exts classes comps eqs ieqs => by
      simp only [SClass.respell, SClass.paths]
      rw [pathsList_respell f (pre ++ [name]) classes]
  theorem pathsList_respell (f : List SMod → List SMod) (pre : Path) : (cs : List SClass) →
      pathsList pre (respellList f cs) = pathsList pre cs
    | [] => by simp [respellList, pathsList]
    | c :: cs => by
      simp only [respellList, pathsList]
      rw [paths_respell f pre c, pathsList_respell f pre cs]
end

theorem name_respell (f : List SMod → List SMod) : (c : SClass) → (c.respell f).name = c.name
  | .mk .. => rfl

theorem ownOf_respell (f : List SMod → List SMod) (pre : Path) : (cs : List SClass) →
    ownOf pre (respellList f cs) = ownOf pre cs
  | [] => by simp [respellList, ownOf]
  | c :: cs => by
    have := ownOf_respell f pre cs
    simp only [ownOf] at this ⊢
    simp [respellList, name_respell, this]

mutual
  theorem index_respell (f : List SMod → List SMod) (pre : Path) : (c : SClass) → (c.respell f).index pre = c.index pre
    | .mk name kind alias exts classes comps eqs ieqs => by
      simp only [SClass.respell, SClass.index]
      rw [indexList_respell f (pre ++ [name]) classes, ownOf_respell]
      cases alias with
      | none => simp [List.map_map, Function.comp_def, SExt.respell]
      | some a => simp
  theorem indexList_respell (f : List SMod → List SMod) (pre : Path) : (cs : List SClass) →
      indexList pre (respellList f cs) = indexList pre cs
    | [] => by simp [respellList, indexList]
    | c :: cs => by
      simp only [respellList, indexList]
      rw [index_respell f pre c, indexList_respell f pre cs]
end

theorem elabComp_respell {f : List SMod → List SMod} (hf : Respelling f)
    (res : Path → List Name → Bool → Except Err Ty) (scope : Path) (k : SComp) :
    elabComp res scope (k.respell f) = elabComp res scope k := by
  simp [elabComp, SComp.respell, hf [] k.mods]

theorem elabExt_respell {f : List SMod → List SMod} (hf : Respelling f)
    (res : Path → List Name → Bool → Except Err Ty) (scope : Path) (e : SExt) :
    elabExt res scope (e.respell f) = elabExt res scope e := by
  simp [elabExt, SExt.respell, hf [] e.mods]

mutual
  theorem elab_respell {f : List SMod → List SMod} (hf : Respelling f)
      (res : Path → List Name → Bool → Except Err Ty) (pre : Path) :
      (c : SClass) → (c.respell f).elab res pre = c.elab res pre
    | .mk name kind alias exts classes comps eqs ieqs => by
      simp only [SClass.respell, SClass.elab]
      rw [elabList_respell hf res (pre ++ [name]) classes, mapE_map, mapE_map]
      rw [mapE_congr fun e _ => elabExt_respell hf res (pre ++ [name]) e,
          mapE_congr fun k _ => elabComp_respell hf res (pre ++ [name]) k]
      cases alias with
      | none => rfl
      | some a => simp [hf [] a.2]
  theorem elabList_respell {f : List SMod → List SMod} (hf : Respelling f)
      (res : Path → List Name → Bool → Except Err Ty) (pre : Path) :
      (cs : List SClass) → elabList res pre (respellList f cs) = elabList res pre cs
    | [] => by simp [respellList, elabList]
    | c :: cs => by
      simp only [respellList, elabList]
      rw [elab_respell hf res pre c, elabList_respell hf res pre cs]
end

theorem indexOf_respell (f : List SMod → List SMod) (src : SLib) : indexOf (respellList f src) = indexOf src := by
  simp only [indexOf, indexList_respell, ownOf_respell]

theorem elabLib_respell {f : List SMod → List SMod} (hf : Respelling f) (src : SLib) :
    elabLib (respellList f src) = elabLib src := by
  simp only [elabLib, pathsList_respell, elabList_respell hf, indexOf_respell, defaultFuel]

theorem findLevel_spec {vis : Path → Except Err (List (Name × Path))} {own : Path → List (Name × Path)}
    {scope : Path} {oo : Bool} {h : Name} {i : Nat} {b : Path}
    (hf : findLevel vis own scope oo h i = .ok (some b)) :
    ∃ j cs, j ≤ i ∧ levelCands vis own scope oo j = .ok cs ∧ cs.lookup h = some b ∧
      ∀ j', j < j' → j' ≤ i → ∃ cs', levelCands vis own scope oo j' = .ok cs' ∧ cs'.lookup h = none := by
  revert hf
  fun_induction findLevel vis own scope oo h i <;> intro hf
  · cases hf
  · exact ⟨0, _, Nat.le_refl _, ‹_›, Except.ok.inj hf, fun j' h1 h2 => by omega⟩
  · cases hf
  · cases hf
    exact ⟨_, _, Nat.le_refl _, ‹_›, ‹_›, fun j' h1 h2 => by omega⟩
  · rename_i i cs hcs hl ih
    obtain ⟨j, cs0, hj, hc0, hl0, hno⟩ := ih hf
    refine ⟨j, cs0, by omega, hc0, hl0, fun j' h1 h2 => ?_⟩
    by_cases hj' : j' = i + 1
    · subst hj'
      exact ⟨cs, hcs, hl⟩
    · exact hno j' h1 (by omega)

end PymocaVerif.Flatten
