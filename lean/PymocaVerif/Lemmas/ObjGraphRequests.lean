import PymocaVerif.Lemmas.ObjGraphCopy
/-!
Flatten requests: `find_class` for a path reads the region only; a sequence of copying lookups
(`lookupAll`) hands out private copies one after the other; hence the frame and the result of
`flattenImpl` on every heap that extends the parsed tree.
-/
namespace PymocaVerif.ObjGraph

theorem find?_congr {α : Type} {p q : α → Bool} {l : List α} (h : ∀ x ∈ l, p x = q x) :
    l.find? p = l.find? q := by
  induction l with
  | nil => rfl
  | cons a l ih =>
    rw [List.find?_cons, List.find?_cons, h a List.mem_cons_self,
      ih fun x hx => h x (List.mem_cons_of_mem _ hx)]

section lookup
variable {H G : Heap} {R : Nat → Prop}

theorem childClass_region (hR : Region H R) {c d : Nat} {n : String} (hc : R c)
    (hd : childClass H c n = some d) : R d := by
  unfold childClass at hd
  split at hd
  · cases hd
  · exact hR.closed c _ _ hc ‹_› (ownIds_mem_iff.mp (List.mem_of_find?_eq_some hd))

theorem childClass_agree (hR : Region H R) (h : AgreeOn R H G) {c : Nat} (hc : R c) (n : String) :
    childClass G c n = childClass H c n := by
  unfold childClass
  rw [h c hc]
  cases ho : H[c]? with
  | none => rfl
  | some o =>
    refine find?_congr fun i hi => ?_
    unfold isClassNamed
    rw [h i (hR.closed c o _ hc ho (ownIds_mem_iff.mp hi))]

theorem lookupPath_region (hR : Region H R) {path : List String} {c d : Nat} (hc : R c)
    (h : lookupPath H c path = some d) : R d := by
  fun_induction lookupPath H c path with
  | case1 c =>
    cases h
    exact hc
  | case2 c n r d' hd ih => exact ih (childClass_region hR hc hd) h
  | case3 => cases h

theorem lookupPath_agree (hR : Region H R) (h : AgreeOn R H G) {path : List String} {c : Nat} (hc : R c) :
    lookupPath G c path = lookupPath H c path := by
  fun_induction lookupPath H c path with
  | case1 c => rfl
  | case2 c n r d hd ih =>
    rw [lookupPath, childClass_agree hR h hc, hd]
    exact ih (childClass_region hR hc hd)
  | case3 c n r hd => rw [lookupPath, childClass_agree hR h hc, hd]

end lookup

theorem ownReach_sound (h : Heap) (P : Nat → Prop) (hstep : ∀ a c, P a → OwnEdge h a c → P c) :
    ∀ f stk acc, (∀ v ∈ stk, P v) → (∀ v ∈ acc, P v) → ∀ v ∈ ownReach h f stk acc, P v := by
  intro f stk acc
  fun_induction ownReach h f stk acc with
  | case1 => exact fun _ hacc => hacc
  | case2 => exact fun _ hacc => hacc
  | case3 f x stk acc _ ih => exact fun hstk => ih fun v hv => hstk v (List.mem_cons_of_mem _ hv)
  | case4 f x stk acc _ _ ih => exact fun hstk => ih fun v hv => hstk v (List.mem_cons_of_mem _ hv)
  | case5 f x stk acc _ o ho ih =>
    intro hstk hacc
    have hx : P x := hstk x List.mem_cons_self
    refine ih (fun w hw => ?_) fun w hw => ?_
    · rcases List.mem_append.mp hw with hw | hw
      · exact hstep x w hx ⟨o, ho, ownIds_mem_iff.mp hw⟩
      · exact hstk w (List.mem_cons_of_mem _ hw)
    · rcases List.mem_cons.mp hw with rfl | hw
      · exact hx
      · exact hacc w hw

theorem footprint_sound (h : Heap) (starts : List Nat) :
    ∀ v ∈ footprint h starts, ∃ s ∈ starts, OwnReach h s v :=
  ownReach_sound h (fun v => ∃ s ∈ starts, OwnReach h s v)
    (fun _ _ ⟨s, hs, hr⟩ e => ⟨s, hs, OwnReach.step hr e⟩) _ starts []
    (fun v hv => ⟨v, hv, OwnReach.refl v⟩) (fun _ hv => nomatch hv)

theorem rewrite_prefix (junk : Nat → Obj → Obj) {P G : Heap} {l : List Nat} (h : P <+: G)
    (hl : ∀ i ∈ l, P.length ≤ i) : P <+: rewrite junk G l := by
  fun_induction rewrite junk G l with
  | case1 => exact h
  | case2 G i r o _ ih =>
    exact ih (prefix_set h (hl i List.mem_cons_self) _) fun j hj => hl j (List.mem_cons_of_mem _ hj)
  | case3 G i r _ ih => exact ih h fun j hj => hl j (List.mem_cons_of_mem _ hj)

theorem lookupAll_nocopy (cfg : Cfg) : ∀ (l : List Nat) (h : Heap), lookupAll cfg false h l = some (h, l) := by
  intro l
  induction l with
  | nil =>
    intro h
    rfl
  | cons i l ih =>
    intro h
    simp only [lookupAll, Bool.false_eq_true, if_false, ih h]

/-- What the copying lookups of `l`, one after the other from `H`, return: copies `ys` in a heap `H'`
    in which all they reach through `own` references is new and each unfolds like its original in `H`. -/
structure LookOut (H : Heap) (l : List Nat) (H' : Heap) (ys : List Nat) : Prop where
  ext : H <+: H'
  fresh : ∀ y ∈ ys, ∀ i, OwnReach H' y i → H.length ≤ i
  views : ∀ k, ys.map (view H' k) = l.map (view H k)

theorem lookupAll_copy {R : Nat → Prop} {cfg : Cfg} (hg : cfg.Good) {l : List Nat} {H : Heap}
    (hR : Region H R) (hts : TreeShaped H R) (hl : ∀ i ∈ l, R i ∧ Detached H i) :
    ∃ H' ys, lookupAll cfg true H l = some (H', ys) ∧ LookOut H l H' ys := by
  induction l generalizing H with
  | nil => exact ⟨H, [], rfl, List.prefix_refl H, fun _ hy => (nomatch hy), fun _ => rfl⟩
  | cons c l ih =>
    obtain ⟨hRc, hdc⟩ := hl c List.mem_cons_self
    have hRl : ∀ i ∈ l, R i := fun i hi => (hl i (List.mem_cons_of_mem _ hi)).1
    obtain ⟨st', y, hds, out⟩ := deepcopy_spec hR hg hRc
    have hag := hR.agreeOn_of_prefix out.ext
    obtain ⟨H2, ys, hrest, lo⟩ := ih (hR.congr hag) (hts.congr hR hag)
      fun i hi => ⟨hRl i hi, (hl i (List.mem_cons_of_mem _ hi)).2.congr hR (hRl i hi) hag⟩
    refine ⟨H2, y :: ys, ?_, out.ext.trans lo.ext, ?_, ?_⟩
    · rw [lookupAll, if_pos rfl, deepcopy_eq_some.mpr ⟨st', hds, rfl⟩]
      simp only [hrest]
    · intro y0 hy0 i hi
      rcases List.mem_cons.mp hy0 with rfl | hy0
      · exact (copy_ownReach_fresh out hts hdc lo.ext hi).1
      · exact Nat.le_trans out.ext.length_le (lo.fresh y0 hy0 i hi)
    · intro k
      rw [List.map_cons, List.map_cons, lo.views k, view_copy hR out lo.ext k out.res]
      congr 1
      exact List.map_congr_left fun i hi => view_agree hR hag k i (hRl i hi)

theorem lookupAll_append (cfg : Cfg) (cp : Bool) : ∀ (l1 l2 : List Nat) (h : Heap),
    lookupAll cfg cp h (l1 ++ l2) =
      match lookupAll cfg cp h l1 with
      | none => none
      | some (h1, ys1) =>
        match lookupAll cfg cp h1 l2 with
        | none => none
        | some (h2, ys2) => some (h2, ys1 ++ ys2) := by
  cases cp with
  | false =>
    intro l1 l2 h
    simp only [lookupAll_nocopy]
  | true =>
    intro l1
    induction l1 with
    | nil =>
      intro l2 h
      simp only [List.nil_append, lookupAll]
      cases lookupAll cfg true h l2 <;> rfl
    | cons i l1 ih =>
      intro l2 h
      simp only [List.cons_append, lookupAll, if_true]
      cases deepcopy cfg h i with
      | none => rfl
      | some r =>
        obtain ⟨h1, j⟩ := r
        simp only [ih l2 h1]
        cases lookupAll cfg true h1 l1 with
        | none => rfl
        | some r2 =>
          obtain ⟨h2, ys⟩ := r2
          simp only
          cases lookupAll cfg true h2 l2 <;> rfl

/-- the lookups of a request stay inside the region, and what they find is detached from above -/
structure ReqOk (H : Heap) (R : Nat → Prop) (root : Nat) (r : Req) : Prop where
  target : ∀ c, lookupPath H root r.path = some c → Detached H c
  others : ∀ i ∈ r.inner ++ r.consts, R i ∧ Detached H i

theorem ReqOk.congr {H G : Heap} {R : Nat → Prop} {root : Nat} {r : Req} (hok : ReqOk H R root r)
    (hR : Region H R) (hroot : R root) (h : AgreeOn R H G) : ReqOk G R root r :=
  { target := fun c hc => by
      rw [lookupPath_agree hR h hroot] at hc
      exact (hok.target c hc).congr hR (lookupPath_region hR hroot hc) h
    others := fun i hi => ⟨(hok.others i hi).1, (hok.others i hi).2.congr hR (hok.others i hi).1 h⟩ }

theorem ReqOk.append {H : Heap} {R : Nat → Prop} {root : Nat} {r : Req} (hok : ReqOk H R root r)
    (hR : Region H R) (hroot : R root) (e : Heap) : ReqOk (H ++ e) R root r :=
  hok.congr hR hroot (hR.agreeOn_append e)

theorem reqOk_of_rank {H : Heap} {d : List Nat} (h : rankCheck H d = true) (root : Nat) (r : Req)
    (hin : ∀ i ∈ r.inner ++ r.consts, i < H.length) : ReqOk H (fun a => a < H.length) root r :=
  { target := fun c _ => detached_of_rank h c
    others := fun i hi => ⟨hin i hi, detached_of_rank h i⟩ }

def Cfg.AllCopy (cfg : Cfg) : Prop := cfg.rootCopy = true ∧ cfg.innerCopy = true ∧ cfg.constCopy = true

theorem obtain_eq {cfg : Cfg} (hall : cfg.AllCopy) (h : Heap) (root : Nat) (r : Req) :
    obtain cfg h root r =
      match lookupPath h root r.path with
      | none => none
      | some c => lookupAll cfg true h (c :: (r.inner ++ r.consts)) := by
  obtain ⟨h1, h2, h3⟩ := hall
  rw [obtain, h1, h2, h3]
  cases lookupPath h root r.path with
  | none => rfl
  | some c =>
    simp only
    rw [show c :: (r.inner ++ r.consts) = [c] ++ (r.inner ++ r.consts) from rfl, lookupAll_append]
    cases lookupAll cfg true h [c] with
    | none => rfl
    | some r1 =>
      obtain ⟨ha, cs⟩ := r1
      simp only [lookupAll_append]
      cases lookupAll cfg true ha r.inner with
      | none => rfl
      | some r2 =>
        obtain ⟨hb, is⟩ := r2
        simp only
        cases lookupAll cfg true hb r.consts <;> rfl

section request
variable {H G : Heap} {R : Nat → Prop} {cfg : Cfg} {root : Nat} {r : Req}
  (hg : cfg.Good) (hall : cfg.AllCopy) (hR : Region H R) (hts : TreeShaped H R) (hroot : R root)
include hg hall hR hts hroot

theorem obtain_spec (hok : ReqOk H R root r) (hG : H <+: G) :
    (lookupPath H root r.path = none ∧ obtain cfg G root r = none) ∨
    ∃ c H' got, lookupPath H root r.path = some c ∧ R c ∧ obtain cfg G root r = some (H', got) ∧
      LookOut G (c :: (r.inner ++ r.consts)) H' got := by
  have hag := hR.agreeOn_of_prefix hG
  have hokG := hok.congr hR hroot hag
  have hpath := lookupPath_agree hR hag (path := r.path) hroot
  rw [obtain_eq hall, hpath]
  cases hc : lookupPath H root r.path with
  | none => exact Or.inl ⟨rfl, rfl⟩
  | some c =>
    have hRc : R c := lookupPath_region hR hroot hc
    obtain ⟨H', got, hl, lo⟩ := lookupAll_copy hg (l := c :: (r.inner ++ r.consts)) (hR.congr hag)
      (hts.congr hR hag) fun i hi => by
        rcases List.mem_cons.mp hi with rfl | hi
        · exact ⟨hRc, hokG.target i (hpath.trans hc)⟩
        · exact hokG.others i hi
    exact Or.inr ⟨c, H', got, rfl, hRc, hl, lo⟩

/-- **frame**: a request leaves every object that existed before it as it was -/
theorem flattenImpl_frame (hok : ReqOk H R root r) (hG : H <+: G) (junk : Nat → Obj → Obj) {H' : Heap}
    (h : flattenImpl cfg junk G root r = some H') : G <+: H' := by
  rw [flattenImpl] at h
  rcases obtain_spec hg hall hR hts hroot hok hG with ⟨_, hob⟩ | ⟨c, H3, got, _, _, hob, lo⟩
  · rw [hob] at h
    cases h
  · rw [hob] at h
    cases h
    refine rewrite_prefix junk lo.ext fun v hv => ?_
    obtain ⟨s, hs, hr⟩ := footprint_sound H3 got v hv
    exact lo.fresh s hs v hr

/-- **what a request reads** is the initial tree, whatever has been appended to the heap since -/
theorem flattenResult_ext (hok : ReqOk H R root r) (hG : H <+: G) (k : Nat) :
    flattenResult cfg k G root r =
      (lookupPath H root r.path).map fun c => (c :: (r.inner ++ r.consts)).map (view H k) := by
  rw [flattenResult]
  rcases obtain_spec hg hall hR hts hroot hok hG with ⟨hc, hob⟩ | ⟨c, H3, got, hc, hRc, hob, lo⟩
  · rw [hob, hc]
    rfl
  · rw [hob, hc]
    simp only [Option.map_some, Option.some.injEq]
    rw [lo.views k]
    refine List.map_congr_left fun i hi => view_agree hR (hR.agreeOn_of_prefix hG) k i ?_
    rcases List.mem_cons.mp hi with rfl | hi
    · exact hRc
    · exact (hok.others i hi).1

/-- **history independence**: earlier requests only append, so every request reads the initial tree -/
theorem runSeq_ext (k : Nat) {reqs : List (Req × (Nat → Obj → Obj))} (hG : H <+: G)
    (hok : ∀ q ∈ reqs, ReqOk H R root q.1) :
    runSeq cfg k root G reqs = reqs.map fun q => flattenResult cfg k H root q.1 := by
  induction reqs generalizing G with
  | nil => rfl
  | cons q reqs ih =>
    obtain ⟨r, junk⟩ := q
    have hq : ReqOk H R root r := hok (r, junk) List.mem_cons_self
    have hrest : ∀ q' ∈ reqs, ReqOk H R root q'.1 := fun q' hq' => hok q' (List.mem_cons_of_mem _ hq')
    rw [runSeq, List.map_cons, flattenResult_ext hg hall hR hts hroot hq hG k,
      ← flattenResult_ext hg hall hR hts hroot hq (List.prefix_refl H) k]
    congr 1
    cases hf : flattenImpl cfg junk G root r with
    | none => exact ih hG hrest
    | some H' => exact ih (hG.trans (flattenImpl_frame hg hall hR hts hroot hq hG junk hf)) hrest

end request

end PymocaVerif.ObjGraph
