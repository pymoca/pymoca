import PymocaVerif.Lemmas.GenStmt
import PymocaVerif.Lemmas.GenEq
/-!
# Lemmas for C11: if-statements of functions (`exitIfStatement` + `get_function`)

All branches assign the same variables `xs` in the same order (one row of right-hand sides per branch).
The generator merges the rows column by column (`expandBlocks`, `mergeIf`) and applies the merged
assignments one after the other; this equals running the taken branch provided the conditions do not
read a variable assigned before the last one (`xs.dropLast`) — otherwise the real translation is
wrong (known finding C11-F3).
-/
namespace PymocaVerif.Gen
open PymocaVerif.ExprSem

/-! ## `evalM` only looks at the symbols an expression mentions -/

mutual
def mentions (x : String) : MExpr K → Bool
  | .num _ => false
  | .ref n _ => n == x
  | .idx _ => false
  | .un _ a => mentions x a
  | .bin _ a b => mentions x a || mentions x b
  | .ife bs => brMentions x bs
  | .call _ args => msMentions x args
  | .delay k _ _ => delayName k == x
def msMentions (x : String) : MExprs K → Bool
  | .nil => false
  | .cons e es => mentions x e || msMentions x es
def brMentions (x : String) : MBranches K → Bool
  | .last e => mentions x e
  | .cons c e rest => mentions x c || mentions x e || brMentions x rest
end

theorem bor_left {a b : Bool} (h : a = true) : (a || b) = true := by
  rw [h]
  rfl

theorem bor_right {a b : Bool} (h : b = true) : (a || b) = true := by rw [h, Bool.or_true]

theorem lookup_congr {ρ1 ρ2 : Env K} {n : String} (hv : ρ1.val n = ρ2.val n) (hs : ρ1.shape = ρ2.shape)
    (hi : ρ1.idx = ρ2.idx) (subs : List Sub) : ρ1.lookup n subs = ρ2.lookup n subs := by
  cases subs with
  | nil => exact hv
  | cons s ss => simp only [Env.lookup, hv, hs, hi]

mutual
theorem evalM_congr (P : Prims K) (F : FSem K) : ∀ (e : MExpr K) (ρ1 ρ2 : Env K),
    (∀ n, mentions n e = true → ρ1.val n = ρ2.val n) → ρ1.shape = ρ2.shape → ρ1.idx = ρ2.idx →
    evalM P F ρ1 e = evalM P F ρ2 e
  | .num _ => fun _ _ _ _ _ => rfl
  | .ref n s => fun ρ1 ρ2 hv hs hi => lookup_congr (hv n (beq_self_eq_true n)) hs hi s
  | .idx i => fun ρ1 ρ2 _ _ hi => by simp only [evalM, hi]
  | .un op a => fun ρ1 ρ2 hv hs hi => by simp only [evalM, evalM_congr P F a ρ1 ρ2 hv hs hi]
  | .bin op a b => fun ρ1 ρ2 hv hs hi => by
    simp only [evalM, evalM_congr P F a ρ1 ρ2 (fun n hn => hv n (bor_left hn)) hs hi,
      evalM_congr P F b ρ1 ρ2 (fun n hn => hv n (bor_right hn)) hs hi]
  | .ife bs => fun ρ1 ρ2 hv hs hi => evalIfe_congr P F bs ρ1 ρ2 hv hs hi
  | .call f args => fun ρ1 ρ2 hv hs hi => by simp only [evalM, evalMs_congr P F args ρ1 ρ2 hv hs hi]
  | .delay k e d => fun ρ1 ρ2 hv _ _ => hv (delayName k) (beq_self_eq_true _)
theorem evalMs_congr (P : Prims K) (F : FSem K) : ∀ (es : MExprs K) (ρ1 ρ2 : Env K),
    (∀ n, msMentions n es = true → ρ1.val n = ρ2.val n) → ρ1.shape = ρ2.shape → ρ1.idx = ρ2.idx →
    evalMs P F ρ1 es = evalMs P F ρ2 es
  | .nil => fun _ _ _ _ _ => rfl
  | .cons e es => fun ρ1 ρ2 hv hs hi => by
    simp only [evalMs, evalM_congr P F e ρ1 ρ2 (fun n hn => hv n (bor_left hn)) hs hi,
      evalMs_congr P F es ρ1 ρ2 (fun n hn => hv n (bor_right hn)) hs hi]
theorem evalIfe_congr (P : Prims K) (F : FSem K) : ∀ (bs : MBranches K) (ρ1 ρ2 : Env K),
    (∀ n, brMentions n bs = true → ρ1.val n = ρ2.val n) → ρ1.shape = ρ2.shape → ρ1.idx = ρ2.idx →
    evalIfe P F ρ1 bs = evalIfe P F ρ2 bs
  | .last e => fun ρ1 ρ2 hv hs hi => evalM_congr P F e ρ1 ρ2 hv hs hi
  | .cons c e rest => fun ρ1 ρ2 hv hs hi => by
    simp only [evalIfe,
      evalM_congr P F c ρ1 ρ2 (fun n hn => hv n (bor_left (bor_left hn))) hs hi,
      evalM_congr P F e ρ1 ρ2 (fun n hn => hv n (bor_left (bor_right hn))) hs hi,
      evalIfe_congr P F rest ρ1 ρ2 (fun n hn => hv n (bor_right hn)) hs hi]
end

/-- The `n` columns of a list of rows. -/
def colsOf : Nat → List (List α) → List (List α)
  | 0, _ => []
  | n + 1, rows => rows.filterMap List.head? :: colsOf n (rows.map List.tail)

theorem colsOf_length : ∀ (n : Nat) (rows : List (List α)), (colsOf n rows).length = n
  | 0, _ => rfl
  | n + 1, _ => congrArg (· + 1) (colsOf_length n _)

theorem colsOf_cons {n : Nat} {r : List α} (rows : List (List α)) (h : r.length = n) :
    colsOf n (r :: rows) = List.zipWith (fun a c => a :: c) r (colsOf n rows) := by
  induction n generalizing r rows with
  | zero => cases List.eq_nil_of_length_eq_zero h; rfl
  | succ n ih =>
    match r, h with
    | a :: r, h =>
      simp only [colsOf, List.filterMap_cons, List.head?_cons, List.map_cons, List.tail_cons,
        List.zipWith_cons_cons, ih (rows.map List.tail) (Nat.succ.inj h)]

theorem colsOf_single {n : Nat} {r : List α} (h : r.length = n) : colsOf n [r] = r.map (fun a => [a]) := by
  induction n generalizing r with
  | zero => cases List.eq_nil_of_length_eq_zero h; rfl
  | succ n ih =>
    match r, h with
    | a :: r, h =>
      simp only [colsOf, List.filterMap_cons, List.head?_cons, List.filterMap_nil, List.map_cons, List.map_nil,
        List.tail_cons, ih (Nat.succ.inj h)]

theorem colsOf_snoc {n : Nat} {r : List α} (rows : List (List α)) (h : r.length = n) :
    colsOf n (rows ++ [r]) = List.zipWith (fun c a => c ++ [a]) (colsOf n rows) r := by
  induction n generalizing r rows with
  | zero => cases List.eq_nil_of_length_eq_zero h; rfl
  | succ n ih =>
    match r, h with
    | a :: r, h =>
      simp only [colsOf, List.filterMap_append, List.filterMap_cons, List.head?_cons, List.filterMap_nil,
        List.map_append, List.map_cons, List.map_nil, List.tail_cons, List.zipWith_cons_cons,
        ih (rows.map List.tail) (Nat.succ.inj h)]

theorem filterMap_head_length : ∀ (rows : List (List α)) (n : Nat), (∀ r ∈ rows, r.length = n + 1) →
    (rows.filterMap List.head?).length = rows.length
  | [] => fun _ _ => rfl
  | [] :: _ => fun _ h => nomatch h [] List.mem_cons_self
  | (a :: r) :: rows => fun n h => by
    simp only [List.filterMap_cons, List.head?_cons, List.length_cons,
      filterMap_head_length rows n (fun q hq => h q (List.mem_cons_of_mem _ hq))]

theorem tail_length_of_mem {n : Nat} {rows : List (List α)} (h : ∀ r ∈ rows, r.length = n + 1) :
    ∀ r ∈ rows.map List.tail, r.length = n := by
  intro r hr
  obtain ⟨q, hq, rfl⟩ := List.mem_map.mp hr
  rw [List.length_tail, h q hq]
  rfl

theorem colsOf_col_length {n : Nat} {rows : List (List α)} (h : ∀ r ∈ rows, r.length = n) :
    ∀ c ∈ colsOf n rows, c.length = rows.length := by
  induction n generalizing rows with
  | zero => exact fun _ hc => nomatch hc
  | succ n ih =>
    intro c hc
    rcases List.mem_cons.mp hc with rfl | hc
    · exact filterMap_head_length rows n h
    · rw [ih (tail_length_of_mem h) c hc, List.length_map]

theorem colsOf_mem {n : Nat} {rows : List (List α)} {c : List α} (hc : c ∈ colsOf n rows) :
    ∀ t ∈ c, ∃ r ∈ rows, t ∈ r := by
  induction n generalizing rows with
  | zero => exact nomatch hc
  | succ n ih =>
    intro t ht
    rcases List.mem_cons.mp hc with rfl | hc
    · obtain ⟨r, hr, hh⟩ := List.mem_filterMap.mp ht
      exact ⟨r, hr, List.mem_of_mem_head? hh⟩
    · obtain ⟨r, hr, htr⟩ := ih hc t ht
      obtain ⟨q, hq, rfl⟩ := List.mem_map.mp hr
      exact ⟨q, hq, List.mem_of_mem_tail htr⟩

theorem foldl_expand_skip {y : String} {c : List (CTerm K)} {ps : List (String × CTerm K)}
    {rest : List (String × List (CTerm K))} (h : ∀ p ∈ ps, p.1 ≠ y) :
    ps.foldl (fun a p => expandInto a p.1 p.2) ((y, c) :: rest) =
      (y, c) :: ps.foldl (fun a p => expandInto a p.1 p.2) rest := by
  induction ps generalizing rest with
  | nil => rfl
  | cons p ps ih =>
    have hne : ¬ y = p.1 := fun e => h p List.mem_cons_self e.symm
    simp only [List.foldl_cons, expandInto, if_neg hne]
    exact ih (fun q hq => h q (List.mem_cons_of_mem _ hq))

theorem zip_fst_ne {x : String} {xs : List String} (hx : x ∉ xs) (ts : List (CTerm K)) :
    ∀ p ∈ xs.zip ts, p.1 ≠ x :=
  fun _ hp e => hx (e ▸ (List.of_mem_zip hp).1)

theorem foldl_expand_first {xs : List String} {ts : List (CTerm K)} (hn : xs.Nodup) (h : ts.length = xs.length) :
    (xs.zip ts).foldl (fun a p => expandInto a p.1 p.2) [] = xs.zip (ts.map fun t => [t]) := by
  induction xs generalizing ts with
  | nil => rfl
  | cons x xs ih =>
    match ts, h with
    | t :: ts, h =>
      obtain ⟨hx, hn⟩ := List.nodup_cons.mp hn
      simp only [List.zip_cons_cons, List.foldl_cons, expandInto, List.map_cons]
      rw [foldl_expand_skip (zip_fst_ne hx ts), ih hn (Nat.succ.inj h)]

theorem foldl_expand_row {xs : List String} {cols : List (List (CTerm K))} {ts : List (CTerm K)}
    (hn : xs.Nodup) (h : ts.length = xs.length) (hc : cols.length = xs.length) :
    (xs.zip ts).foldl (fun a p => expandInto a p.1 p.2) (xs.zip cols) =
      xs.zip (List.zipWith (fun c t => c ++ [t]) cols ts) := by
  induction xs generalizing cols ts with
  | nil => rfl
  | cons x xs ih =>
    match cols, ts, h, hc with
    | c :: cols, t :: ts, h, hc =>
      obtain ⟨hx, hn⟩ := List.nodup_cons.mp hn
      simp only [List.zip_cons_cons, List.foldl_cons, expandInto, if_true, List.zipWith_cons_cons]
      rw [foldl_expand_skip (zip_fst_ne hx ts), ih hn (Nat.succ.inj h) (Nat.succ.inj hc)]

theorem foldl_expand_rows {xs : List String} (hn : xs.Nodup) {rest : List (List (CTerm K))}
    (done : List (List (CTerm K))) (h : ∀ r ∈ rest, r.length = xs.length) :
    (rest.map (fun r => xs.zip r)).flatten.foldl (fun a p => expandInto a p.1 p.2) (xs.zip (colsOf xs.length done)) =
      xs.zip (colsOf xs.length (done ++ rest)) := by
  induction rest generalizing done with
  | nil =>
    rw [List.append_nil]
    rfl
  | cons r rest ih =>
    have hr := h r List.mem_cons_self
    simp only [List.map_cons, List.flatten_cons, List.foldl_append]
    rw [foldl_expand_row hn hr (colsOf_length _ _), ← colsOf_snoc done hr,
      ih (done ++ [r]) (fun q hq => h q (List.mem_cons_of_mem _ hq)), List.append_assoc, List.singleton_append]

theorem expandBlocks_aligned {xs : List String} (hn : xs.Nodup) {r : List (CTerm K)} {rest : List (List (CTerm K))}
    (h : ∀ q ∈ r :: rest, q.length = xs.length) :
    expandBlocks ((r :: rest).map (fun q => xs.zip q)).flatten = xs.zip (colsOf xs.length (r :: rest)) := by
  have hr := h r List.mem_cons_self
  simp only [expandBlocks, List.map_cons, List.flatten_cons, List.foldl_append]
  rw [foldl_expand_first hn hr, ← colsOf_single hr,
    foldl_expand_rows hn [r] (fun q hq => h q (List.mem_cons_of_mem _ hq)), List.singleton_append]

/-- Row-wise translation of the right-hand sides of all branches. -/
def genRows (P : Prims K) (o : Opts) (T : FTab K) : List (List (MExpr K)) → G (List (List (CTerm K)))
  | [] => .ok []
  | r :: rs => do let t ← genL P o T r; let ts ← genRows P o T rs; .ok (t :: ts)

theorem genRhs_zip {P : Prims K} {o : Opts} {T : FTab K} {xs : List String} {row : List (MExpr K)}
    (h : row.length = xs.length) : genRhs P o T (xs.zip row) = (genL P o T row).map (xs.zip ·) := by
  induction xs generalizing row with
  | nil => cases List.eq_nil_of_length_eq_zero h; rfl
  | cons x xs ih =>
    match row, h with
    | e :: row, h =>
      simp only [List.zip_cons_cons, genRhs, genL, ih (Nat.succ.inj h), bind_map, map_bind]
      rfl

theorem genRhsBlocks_aligned {P : Prims K} {o : Opts} {T : FTab K} {xs : List String}
    {rows : List (List (MExpr K))} (h : ∀ r ∈ rows, r.length = xs.length) :
    genRhsBlocks P o T (rows.map (xs.zip ·)) = (genRows P o T rows).map (List.map (xs.zip ·)) := by
  induction rows with
  | nil => rfl
  | cons r rows ih =>
    simp only [List.map_cons, genRhsBlocks, genRows, genRhs_zip (h r List.mem_cons_self),
      ih (fun q hq => h q (List.mem_cons_of_mem _ hq)), bind_map, map_bind]
    rfl

theorem genRows_length_mem {P : Prims K} {o : Opts} {T : FTab K} {rows : List (List (MExpr K))}
    {rowsT : List (List (CTerm K))} (h : genRows P o T rows = .ok rowsT) :
    rowsT.length = rows.length ∧ ∀ rT ∈ rowsT, ∃ r ∈ rows, genL P o T r = .ok rT := by
  induction rows generalizing rowsT with
  | nil => cases h; exact ⟨rfl, nofun⟩
  | cons r rows ih =>
    obtain ⟨t, ts, ht, hts, rfl⟩ := bind2_ok.mp h
    refine ⟨congrArg (· + 1) (ih hts).1, fun rT hrT => ?_⟩
    rcases List.mem_cons.mp hrT with rfl | hrT
    · exact ⟨r, List.mem_cons_self, ht⟩
    · obtain ⟨q, hq, hg⟩ := (ih hts).2 rT hrT
      exact ⟨q, List.mem_cons_of_mem _ hq, hg⟩

/-- The merged assignments of an if-statement: per variable, the `if_else` chain over its column. -/
def ifAssigns (tcs : List (CTerm K)) (xs : List String) (rowsT : List (List (CTerm K))) : List (String × CTerm K) :=
  (xs.zip (colsOf xs.length rowsT)).map fun p => (p.1, nestAll tcs p.2)

theorem ifAssigns_fst (tcs : List (CTerm K)) (xs : List String) (rowsT : List (List (CTerm K))) :
    (ifAssigns tcs xs rowsT).map (·.1) = xs := by
  simp only [ifAssigns, List.map_map]
  exact List.map_fst_zip (Nat.le_of_eq (colsOf_length _ _).symm)

theorem ifAssigns_closed {B : List String} {tcs : List (CTerm K)} {xs : List String}
    {rowsT : List (List (CTerm K))} (hc : tcs.all (idxClosed B) = true)
    (hr : ∀ rT ∈ rowsT, rT.all (idxClosed B) = true) : ∀ p ∈ ifAssigns tcs xs rowsT, idxClosed B p.2 = true := by
  intro p hp
  obtain ⟨q, hq, rfl⟩ := List.mem_map.mp hp
  refine nestAll_closed hc (List.all_eq_true.mpr fun t ht => ?_)
  obtain ⟨rT, hrT, htr⟩ := colsOf_mem (List.of_mem_zip hq).2 t ht
  exact List.all_eq_true.mp (hr rT hrT) t htr

theorem mergeIf_eq_foldFromLast (tcs ts : List (CTerm K)) : mergeIf tcs ts = foldFromLast tcs ts := rfl

theorem sameLengths_aligned {xs : List String} {r : List (MExpr K)} {rest : List (List (MExpr K))}
    (hl : ∀ q ∈ r :: rest, q.length = xs.length) :
    sameLengths ((r :: rest).map fun q => xs.zip q) = true := by
  simp only [List.map_cons, sameLengths, List.all_map, List.all_eq_true]
  intro q hq
  simp only [Function.comp, List.length_zip, hl q (List.mem_cons_of_mem _ hq), hl r List.mem_cons_self,
    beq_self_eq_true]

theorem genStmt_ifs_aligned {P : Prims K} {o : Opts} {T : FTab K} {cs : List (MExpr K)} {xs : List String}
    {r : List (MExpr K)} {rest : List (List (MExpr K))} (hn : xs.Nodup)
    (hl : ∀ q ∈ r :: rest, q.length = xs.length) (hlen : (r :: rest).length = cs.length + 1)
    {as : List (String × CTerm K)} (h : genStmt P o T (.ifs cs ((r :: rest).map fun q => xs.zip q)) = .ok as) :
    ∃ tcs rowsT, genL P o T cs = .ok tcs ∧ genRows P o T (r :: rest) = .ok rowsT ∧
      as = ifAssigns tcs xs rowsT := by
  obtain ⟨tcs, htcs, h2⟩ := bind_ok.mp h
  obtain ⟨tbs, htbs, h3⟩ := bind_ok.mp h2
  rw [genRhsBlocks_aligned hl] at htbs
  obtain ⟨rowsT, hrowsT, rfl⟩ := map_ok htbs
  obtain ⟨hrows, hmem⟩ := genRows_length_mem hrowsT
  have hrowlen : ∀ rT ∈ rowsT, rT.length = xs.length := fun rT hrT => by
    obtain ⟨q, hq, hg⟩ := hmem rT hrT
    exact (genL_length hg).trans (hl q hq)
  cases rowsT with
  | nil => cases hrows
  | cons rT restT =>
    rw [sameLengths_aligned hl, Bool.not_true, if_neg Bool.false_ne_true,
      expandBlocks_aligned hn hrowlen] at h3
    dsimp only at h3
    split at h3
    · cases h3
    · cases h3
      refine ⟨tcs, _, htcs, hrowsT, List.map_congr_left fun p hp => congrArg (Prod.mk p.1) ?_⟩
      -- every column has one entry per branch, so its backwards fold is the `if_else` chain
      rw [mergeIf_eq_foldFromLast]
      refine foldFromLast_eq_nestAll ?_
      rw [colsOf_col_length hrowlen p.2 (List.of_mem_zip hp).2, hrows, hlen, genL_length htcs]

/-- `B` and `A` assign the same variables in the same order; each variable gets `if_else(tc, ·, ·)` over
    its right-hand sides in `B` and in `A`. -/
def ifElseAssigns (tc : CTerm K) (B A : List (String × CTerm K)) : List (String × CTerm K) :=
  List.zipWith (fun b a => (b.1, CTerm.ifElse tc b.2 a.2)) B A

theorem nestAll_cols_cons (tc : CTerm K) (tcs : List (CTerm K)) {xs : List String} {r : List (CTerm K)}
    {C : List (List (CTerm K))} (h1 : r.length = xs.length) (h2 : C.length = xs.length) :
    (xs.zip (List.zipWith (fun a c => a :: c) r C)).map (fun p => (p.1, nestAll (tc :: tcs) p.2)) =
      ifElseAssigns tc (xs.zip r) ((xs.zip C).map fun p => (p.1, nestAll tcs p.2)) := by
  induction xs generalizing r C with
  | nil => simp only [List.zip_nil_left, List.map_nil, ifElseAssigns, List.zipWith_nil_left]
  | cons x xs ih =>
    match r, C, h1, h2 with
    | a :: r, c :: C, h1, h2 =>
      replace ih := ih (Nat.succ.inj h1) (Nat.succ.inj h2)
      simp only [ifElseAssigns] at ih ⊢
      simp only [List.zipWith_cons_cons, List.zip_cons_cons, List.map_cons, nestAll, ih]

theorem ifAssigns_cons {tc : CTerm K} {tcs : List (CTerm K)} {xs : List String} {r : List (CTerm K)}
    {rest : List (List (CTerm K))} (h : r.length = xs.length) :
    ifAssigns (tc :: tcs) xs (r :: rest) = ifElseAssigns tc (xs.zip r) (ifAssigns tcs xs rest) := by
  simp only [ifAssigns]
  rw [colsOf_cons rest h]
  exact nestAll_cols_cons tc tcs h (colsOf_length _ _)

theorem ifAssigns_nil {xs : List String} {r : List (CTerm K)} (h : r.length = xs.length) :
    ifAssigns [] xs [r] = xs.zip r := by
  simp only [ifAssigns, colsOf_single h, List.zip_map_right, List.map_map]
  exact List.map_id'' (fun _ => rfl) _

def AgreeOff (D : List String) (σ σ' : Store K) : Prop := ∀ y, y ∉ D → Store.get σ y = Store.get σ' y

theorem evalM_agreeOff (P : Prims K) (F : FSem K) {D : List String} {c : MExpr K}
    (hc : ∀ y ∈ D, mentions y c = false) {σ σ' : Store K} (h : AgreeOff D σ σ') :
    evalM P F (storeEnv σ' (fun _ => none)) c = evalM P F (storeEnv σ (fun _ => none)) c :=
  evalM_congr P F c _ _ (fun n hn => (h n (fun hD => Bool.false_ne_true ((hc n hD).symm.trans hn))).symm) rfl rfl

/-- With a condition whose value does not change while the merged assignments run, the `if_else`
    entries reduce to the entries of the chosen side. -/
theorem runRaw_ifElseAssigns {P : Prims K} {D : List String} {σ : Store K} {tc : CTerm K} {b : Bool}
    (hstab : ∀ σ' : Store K, AgreeOff D σ σ' →
      ∃ vc, evalC P (storeEnv σ' fun _ => none) tc = some vc ∧ condOf P vc = some b)
    {B A : List (String × CTerm K)} {σ' : Store K} (h : B.map (·.1) = A.map (·.1))
    (hD : ∀ x ∈ (B.map (·.1)).dropLast, x ∈ D) (hag : B ≠ [] → AgreeOff D σ σ') :
    runRaw P (ifElseAssigns tc B A) σ' = runRaw P (if b then B else A) σ' := by
  induction B generalizing A σ' with
  | nil =>
    cases A with
    | nil => cases b <;> rfl
    | cons _ _ => cases h
  | cons p B ih =>
    cases A with
    | nil => cases h
    | cons q A =>
      obtain ⟨x, tb⟩ := p
      obtain ⟨y, ta⟩ := q
      simp only [List.map_cons, List.cons.injEq] at h
      obtain ⟨rfl, hrest⟩ := h
      replace hag := hag (List.cons_ne_nil _ _)
      obtain ⟨vc, hvc, hcond⟩ := hstab σ' hag
      -- unless this entry is the last one it assigns a variable of `D`: the stores still agree off `D`
      have key : ∀ (w : List K), runRaw P (ifElseAssigns tc B A) ((x, w) :: σ') =
          runRaw P (if b then B else A) ((x, w) :: σ') := fun w => by
        refine ih hrest (fun z hz => hD z ?_) (fun hne z hz => ?_)
        · rw [List.map_cons, List.dropLast_cons_of_ne_nil (fun e => by
            rw [e] at hz
            exact nomatch hz)]
          exact List.mem_cons_of_mem _ hz
        · have hxD : x ∈ D := hD x (by
            rw [List.map_cons, List.dropLast_cons_of_ne_nil (mt List.map_eq_nil_iff.mp hne)]
            exact List.mem_cons_self)
          rw [store_get_cons, if_neg (fun e : x = z => hz (e ▸ hxD))]
          exact hag z hz
      simp only [ifElseAssigns, List.zipWith_cons_cons, runRaw, evalC, hvc, hcond, Option.bind_eq_bind, Option.bind_some]
      cases b
      · simp only [Bool.false_eq_true, if_false, runRaw]
        exact bind_congr key
      · simp only [if_true, runRaw]
        exact bind_congr key

theorem runRaw_refines_execIf {P : Prims K} {o : Opts} {T : FTab K} {F : FSem K} (hT : TabOK P T F) (hS : NoShadow T)
    {xs : List String} {cs : List (MExpr K)} {rows : List (List (MExpr K))} {tcs : List (CTerm K)}
    {rowsT : List (List (CTerm K))} (hc : genL P o T cs = .ok tcs) (hr : genRows P o T rows = .ok rowsT)
    (hl : ∀ r ∈ rows, r.length = xs.length) (hm : ∀ c ∈ cs, ∀ y ∈ xs.dropLast, mentions y c = false)
    (σ : Store K) :
    Refines (runRaw P (ifAssigns tcs xs rowsT) σ) (execIf P F cs (rows.map fun r => xs.zip r) σ) := by
  -- the taken branch: its translated row runs like the branch
  have taken : ∀ {r : List (MExpr K)} {rT : List (CTerm K)}, r.length = xs.length → genL P o T r = .ok rT →
      Refines (runRaw P (xs.zip rT) σ) (execAssigns P F (fun _ => none) (xs.zip r) σ) :=
    fun hlen hrT => runRaw_refines_execAssigns_plain hT hS (by rw [genRhs_zip hlen, hrT]; rfl) σ
  induction cs generalizing rows tcs rowsT with
  | nil =>
    cases hc
    match rows, hr, hl with
    | [], _, _ => exact nofun
    | _ :: _ :: _, _, _ => exact nofun
    | [r], hr, hl =>
      obtain ⟨rT, r0, hrT, hr0, rfl⟩ := bind2_ok.mp hr
      cases hr0
      have hlen : r.length = xs.length := hl r List.mem_cons_self
      rw [ifAssigns_nil ((genL_length hrT).trans hlen)]
      exact taken hlen hrT
  | cons c cs ih =>
    cases rows with
    | nil => exact nofun
    | cons r rows =>
      obtain ⟨tc, tcs', htc, htcs', rfl⟩ := bind2_ok.mp hc
      obtain ⟨rT, rowsT', hrT, hrowsT', rfl⟩ := bind2_ok.mp hr
      have hlen : r.length = xs.length := hl r List.mem_cons_self
      have hlenT : rT.length = xs.length := (genL_length hrT).trans hlen
      rw [ifAssigns_cons hlenT]
      intro v hv
      obtain ⟨vc, hvc, hv⟩ := Option.bind_eq_some_iff.mp hv
      obtain ⟨b, hb, hv⟩ := Option.bind_eq_some_iff.mp hv
      -- the condition keeps its value while the variables before the last one are assigned
      have hstab : ∀ σ' : Store K, AgreeOff xs.dropLast σ σ' →
          ∃ vc', evalC P (storeEnv σ' fun _ => none) tc = some vc' ∧ condOf P vc' = some b := fun σ' hag =>
        ⟨vc, gen_refines hT hS c htc _ vc
          ((evalM_agreeOff P F (hm c List.mem_cons_self) hag).trans hvc), hb⟩
      have hfst : (xs.zip rT).map (·.1) = (ifAssigns tcs' xs rowsT').map (·.1) := by
        rw [ifAssigns_fst, List.map_fst_zip (Nat.le_of_eq hlenT.symm)]
      have hD : ∀ x ∈ ((xs.zip rT).map (·.1)).dropLast, x ∈ xs.dropLast := by
        rw [List.map_fst_zip (Nat.le_of_eq hlenT.symm)]
        exact fun _ hx => hx
      rw [runRaw_ifElseAssigns hstab hfst hD (fun _ _ _ => rfl)]
      cases b
      · exact ih htcs' hrowsT' (fun q hq => hl q (List.mem_cons_of_mem _ hq))
          (fun c' hc' => hm c' (List.mem_cons_of_mem _ hc')) v hv
      · exact taken hlen hrT v hv

end PymocaVerif.Gen
