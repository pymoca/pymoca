import PymocaVerif.Lemmas.AliasRel
/-!
The full invariant `WFR` of `AliasRelation` (classes, canonical map, canonical-variables set), what
it says about `canonical_signed` and `canonical_variables`, and its preservation by `add` (C17).
-/
namespace PymocaVerif.AliasRel

structure WFR (s : AR) : Prop where
  cls : ARInv s
  dom : ∀ x, s.cmap x = none ↔ s.al x = none
  nontriv : ∀ x A, s.al x = some A → ∃ y, y ∈ A ∧ y ≠ x
  can_mem : ∀ x, ((s.canonicalSigned x).2, (s.canonicalSigned x).1) ∈ s.aliases x
  can_eq : ∀ x y, y ∈ s.aliases x → s.canonicalSigned y = s.canonicalSigned x
  can_neg : ∀ x, s.canonicalSigned (tog x) = flipIf true (s.canonicalSigned x)
  cv_iff : ∀ c, c ∈ s.cv ↔ s.cmap (false, c) = some (c, false)
  cv_nodup : s.cv.Nodup

/-- the signed name that a value of `canonical_signed` stands for -/
def rep (p : String × Bool) : SName := (p.2, p.1)

theorem flipIf_true (p : String × Bool) : flipIf true p = (p.1, !p.2) :=
  congrArg (Prod.mk p.1) (Bool.true_xor p.2)

theorem rep_flipIf (p : String × Bool) : rep (flipIf true p) = tog (rep p) :=
  congrArg (·, p.1) (Bool.true_xor p.2)

theorem flipIf_flipIf (p : String × Bool) : flipIf true (flipIf true p) = p := by
  rw [flipIf_true, flipIf_true]; exact Prod.ext rfl (Bool.not_not p.2)

theorem empty_wfr : WFR AR.empty where
  cls := empty_inv
  dom := fun _ => ⟨fun _ => rfl, fun _ => rfl⟩
  nontriv := fun _ _ h => nomatch h
  can_mem := fun _ => List.mem_singleton.2 rfl
  can_eq := fun x y h => by rw [List.mem_singleton.1 h]
  can_neg := fun x => (flipIf_true (x.2, x.1)).symm
  cv_iff := fun _ => ⟨nofun, nofun⟩
  cv_nodup := List.nodup_nil

/-- apart from `canonical_variables`, every field of `WFR` speaks of one name and its class -/
theorem WFR.of_pointwise {s : AR} (h : ARInv s)
    (p : ∀ x, (s.cmap x = none ↔ s.al x = none) ∧ (∀ A, s.al x = some A → ∃ y, y ∈ A ∧ y ≠ x) ∧
      rep (s.canonicalSigned x) ∈ s.aliases x ∧
      (∀ y ∈ s.aliases x, s.canonicalSigned y = s.canonicalSigned x) ∧
      s.canonicalSigned (tog x) = flipIf true (s.canonicalSigned x))
    (hcv : ∀ c, c ∈ s.cv ↔ s.cmap (false, c) = some (c, false)) (hn : s.cv.Nodup) : WFR s :=
  ⟨h, fun x => (p x).1, fun x => (p x).2.1, fun x => (p x).2.2.1, fun x => (p x).2.2.2.1,
   fun x => (p x).2.2.2.2, hcv, hn⟩

theorem WFR.rep_mem {s : AR} (w : WFR s) (x : SName) : rep (s.canonicalSigned x) ∈ s.aliases x :=
  w.can_mem x

theorem canon_self {s : AR} (w : WFR s) (x : SName) (sg : Bool) :
    s.canonicalSigned (sg, (s.canonicalSigned x).1) = ((s.canonicalSigned x).1, sg) := by
  have hm : s.canonicalSigned (rep (s.canonicalSigned x)) = s.canonicalSigned x := w.can_eq x _ (w.rep_mem x)
  by_cases e : sg = (s.canonicalSigned x).2
  · rw [e]; exact hm
  · rw [Bool.eq_not_of_ne e]
    exact (w.can_neg (rep (s.canonicalSigned x))).trans ((congrArg (flipIf true) hm).trans (flipIf_true _))

theorem canon_pos {s : AR} (w : WFR s) (x : SName) :
    s.canonicalSigned (false, (s.canonicalSigned x).1) = ((s.canonicalSigned x).1, false) :=
  canon_self w x false

theorem WFR.can_of_cv {s : AR} (w : WFR s) {c : String} (hc : c ∈ s.cv) (sg : Bool) :
    s.canonicalSigned (sg, c) = (c, sg) := by
  have e := canon_self w (false, c) sg
  rwa [canonicalSigned_of_some ((w.cv_iff c).1 hc)] at e

theorem WFR.stored_of_cv {s : AR} (w : WFR s) {c : String} (hc : c ∈ s.cv) : s.al (false, c) ≠ none :=
  fun hn => nomatch ((w.dom _).2 hn).symm.trans ((w.cv_iff c).1 hc)

theorem same_canonical_iff {s : AR} (w : WFR s) (x y : SName) :
    (s.canonicalSigned x).1 = (s.canonicalSigned y).1 ↔ (y ∈ s.aliases x ∨ y ∈ s.aliases (tog x)) := by
  constructor
  · intro e
    rcases eq_or_eq_tog (u := rep (s.canonicalSigned x)) (v := rep (s.canonicalSigned y)) e with e' | e'
    · exact Or.inl (aliases_trans w.cls (w.rep_mem x) (aliases_symm s w.cls (e' ▸ w.rep_mem y)))
    · exact Or.inr (mem_aliases_tog_of_cross w.cls (w.rep_mem x) (e' ▸ w.rep_mem y))
  · rintro (hy | hy)
    · rw [w.can_eq x y hy]
    · rw [w.can_eq (tog x) y hy, w.can_neg x]; rfl

theorem nontrivial_iff_stored {s : AR} (w : WFR s) (x : SName) :
    (∃ y, y ∈ s.aliases x ∧ y ≠ x) ↔ s.al x ≠ none := by
  constructor
  · intro ⟨y, hy, hne⟩ hnone
    rw [aliases_of_none hnone] at hy
    exact hne (List.mem_singleton.1 hy)
  · exact fun hne => w.nontriv x _ (al_eq_some_aliases hne)

theorem stored_canonical_iff {s : AR} (w : WFR s) (x : SName) :
    s.al (false, (s.canonicalSigned x).1) ≠ none ↔ s.al x ≠ none := by
  have h := w.cls
  rcases (same_canonical_iff w x (false, _)).1 (congrArg Prod.fst (canon_pos w x)).symm with hm | hm
  · exact ⟨stored_of_mem h (aliases_symm s h hm), stored_of_mem h hm⟩
  · exact ⟨fun hp => tog_tog x ▸ stored_tog h (stored_of_mem h (aliases_symm s h hm) hp),
      fun hx => stored_of_mem h hm (stored_tog h hx)⟩

theorem cv_iff_canonical {s : AR} (w : WFR s) (x : SName) :
    (s.canonicalSigned x).1 ∈ s.cv ↔ ∃ y, y ∈ s.aliases x ∧ y ≠ x := by
  rw [nontrivial_iff_stored w x, w.cv_iff, ← stored_canonical_iff w x]
  constructor
  · intro hc hn
    rw [(w.dom _).2 hn] at hc; cases hc
  · intro hn
    cases hcm : s.cmap (false, (s.canonicalSigned x).1) with
    | none => exact absurd ((w.dom _).1 hcm) hn
    | some p => rw [← canonicalSigned_of_some hcm, canon_pos w x]

theorem iter_map_fst (s : AR) : s.iter.map (·.1) = s.cv :=
  List.map_map.trans (List.map_id s.cv)

/-- the union `aliases(a) | aliases(b)` that `add` builds -/
abbrev AA (s : AR) (a b : SName) : List SName := s.aliases a ++ s.aliases b

/-- the state `add(a, b)` produces when the early return is not taken -/
def AR.addRes (s : AR) (a b : SName) : AR :=
  { al := fun k => if k ∈ AA s a b then some (AA s a b)
                   else if tog k ∈ AA s a b then some (s.aliases (tog a) ++ s.aliases (tog b)) else s.al k,
    cmap := fun k => if tog k ∈ AA s a b then some (flipIf true (s.canonicalSigned a))
                     else if k ∈ AA s a b then some (s.canonicalSigned a) else s.cmap k,
    cv := (if (s.canonicalSigned a).1 ∈ s.cv then s.cv else s.cv ++ [(s.canonicalSigned a).1]).filter
            (· != (s.canonicalSigned b).1) }

theorem add_eff {s : AR} {a b : SName} (hb : b ∉ s.aliases a) : s.add a b = some (s.addRes a b) := by
  simp only [AR.add, hb, if_false]; rfl

theorem eq_addRes_of_add {s s' : AR} {a b : SName} (hb : b ∉ s.aliases a) (hs : s.add a b = some s') :
    s' = s.addRes a b :=
  Option.some.inj (hs.symm.trans (add_eff hb))

theorem add_noop {s : AR} (h : ARInv s) {a b : SName} (hb : b ∈ s.aliases a) : s.add a b = some s := by
  simp only [AR.add, hb, aliases_symm s h hb, if_true]

theorem addRes_al (s : AR) (a b : SName) : (s.addRes a b).al = s.addAl a b := rfl

theorem tog_mem_AA_iff (s : AR) (a b k : SName) : tog (tog k) ∈ AA s a b ↔ k ∈ AA s a b := by simp

theorem tog_pair (sg : Bool) (c : String) : tog (sg, c) = (!sg, c) := rfl

theorem addRes_out (s : AR) {a b x : SName} (hx : x ∉ AA s a b) (hnx : tog x ∉ AA s a b) :
    (s.addRes a b).al x = s.al x ∧ (s.addRes a b).cmap x = s.cmap x :=
  ⟨(if_neg hx).trans (if_neg hnx), (if_neg hnx).trans (if_neg hx)⟩

theorem addRes_pos {s : AR} (h : ARInv s) {a b : SName} (hpre : b ∉ s.aliases (tog a)) {x : SName}
    (hx : x ∈ AA s a b) :
    (s.addRes a b).al x = some (AA s a b) ∧ (s.addRes a b).cmap x = some (s.canonicalSigned a) :=
  ⟨if_pos hx, (if_neg (disjoint_neg h hpre hx)).trans (if_pos hx)⟩

theorem addRes_neg {s : AR} (h : ARInv s) {a b : SName} (hpre : b ∉ s.aliases (tog a)) {x : SName}
    (hx : tog x ∈ AA s a b) :
    (s.addRes a b).al x = some (AA s (tog a) (tog b)) ∧
      (s.addRes a b).cmap x = some (flipIf true (s.canonicalSigned a)) :=
  have hn : x ∉ AA s a b := fun m => disjoint_neg h hpre m hx
  ⟨(if_neg hn).trans (if_pos hx), if_pos hx⟩

theorem addRes_cases {s : AR} (h : ARInv s) {a b : SName} (hpre : b ∉ s.aliases (tog a)) (x : SName) :
    (x ∈ AA s a b ∧ (s.addRes a b).al x = some (AA s a b) ∧
      (s.addRes a b).cmap x = some (s.canonicalSigned a)) ∨
    (tog x ∈ AA s a b ∧ (s.addRes a b).al x = some (AA s (tog a) (tog b)) ∧
      (s.addRes a b).cmap x = some (flipIf true (s.canonicalSigned a))) ∨
    (x ∉ AA s a b ∧ tog x ∉ AA s a b ∧ (s.addRes a b).al x = s.al x ∧ (s.addRes a b).cmap x = s.cmap x) := by
  by_cases h1 : x ∈ AA s a b
  · exact Or.inl ⟨h1, addRes_pos h hpre h1⟩
  · by_cases h2 : tog x ∈ AA s a b
    · exact Or.inr (Or.inl ⟨h2, addRes_neg h hpre h2⟩)
    · exact Or.inr (Or.inr ⟨h1, h2, addRes_out s h1 h2⟩)

theorem canonicalSigned_addRes (s : AR) (a b k : SName) :
    (s.addRes a b).canonicalSigned k =
      if tog k ∈ AA s a b then flipIf true (s.canonicalSigned a)
      else if k ∈ AA s a b then s.canonicalSigned a else s.canonicalSigned k := by
  split
  · next h1 => exact canonicalSigned_of_some (if_pos h1)
  · split
    · next h1 h2 => exact canonicalSigned_of_some ((if_neg h1).trans (if_pos h2))
    · next h1 h2 => exact canonicalSigned_congr ((if_neg h1).trans (if_neg h2))

theorem mem_ite_append {L : List String} {c d : String} :
    c ∈ (if d ∈ L then L else L ++ [d]) ↔ c ∈ L ∨ c = d := by
  split
  · next hd => exact ⟨Or.inl, fun m => m.elim id (· ▸ hd)⟩
  · rw [List.mem_append, List.mem_singleton]

theorem nodup_ite_append {L : List String} (d : String) (hL : L.Nodup) :
    (if d ∈ L then L else L ++ [d]).Nodup := by
  split
  · exact hL
  · next hd =>
    rw [List.nodup_append]
    exact ⟨hL, List.pairwise_singleton _ d, fun x hx y hy e => hd (List.mem_singleton.1 hy ▸ e ▸ hx)⟩

theorem mem_cv_addRes (s : AR) (a b : SName) (c : String) :
    c ∈ (s.addRes a b).cv ↔
      (c ∈ s.cv ∨ c = (s.canonicalSigned a).1) ∧ c ≠ (s.canonicalSigned b).1 := by
  simp only [AR.addRes, List.mem_filter, bne_iff_ne, ne_eq, mem_ite_append]

theorem addRes_inv {s : AR} (h : ARInv s) {a b : SName} (hpre : b ∉ s.aliases (tog a)) :
    ARInv (s.addRes a b) := by
  refine ARInv.of_pointwise fun x S hS => ?_
  rcases addRes_cases h hpre x with ⟨hx, hal, _⟩ | ⟨hx, hal, _⟩ | ⟨hx, hnx, hal, _⟩ <;> rw [hal] at hS
  · cases hS
    exact ⟨hx, fun y hy => ⟨_, (addRes_pos h hpre hy).1, fun _ => Iff.rfl⟩,
      ⟨_, (addRes_neg h hpre (by rwa [tog_tog])).1, union_tog h a b⟩, disjoint_neg h hpre hx⟩
  · cases hS
    exact ⟨(union_tog h a b x).2 hx,
      fun y hy => ⟨_, (addRes_neg h hpre ((union_tog h a b y).1 hy)).1, fun _ => Iff.rfl⟩,
      ⟨_, (addRes_pos h hpre hx).1, fun z => by rw [union_tog h, tog_tog]⟩,
      fun m => disjoint_neg h hpre hx ((union_tog h a b _).1 m)⟩
  · refine ⟨h.self_mem x S hS, fun y hy => ?_, ?_, h.noself x S hS⟩
    · obtain ⟨hy1, hy2⟩ := union_outside h hx hnx (aliases_of_some hS ▸ hy)
      rw [(addRes_out s hy1 hy2).1]; exact h.shared x S y hS hy
    · rw [(addRes_out s hnx (by rwa [tog_tog])).1]; exact h.neg x S hS

theorem aliases_addRes_mono {s : AR} (h : ARInv s) {a b : SName} (hpre : b ∉ s.aliases (tog a))
    {x y : SName} (hy : y ∈ s.aliases x) : y ∈ (s.addRes a b).aliases x := by
  rcases addRes_cases h hpre x with ⟨hx, hal, _⟩ | ⟨hx, hal, _⟩ | ⟨_, _, hal, _⟩
  · rw [aliases_of_some hal]; exact union_closed h hx hy
  · rw [aliases_of_some hal]; exact (union_tog h a b y).2 (union_closed h hx (h.sequiv.neg hy))
  · rwa [aliases_congr hal]

theorem mem_aliases_addRes_pair {s : AR} (h : ARInv s) (a b : SName) : b ∈ (s.addRes a b).aliases a := by
  have hal : (s.addRes a b).al a = some (AA s a b) := if_pos (List.mem_append_left _ (mem_aliases_self h a))
  rw [aliases_of_some hal]
  exact List.mem_append_right _ (mem_aliases_self h b)

theorem exists_mem_ne {L : List SName} {u v : SName} (hu : u ∈ L) (hv : v ∈ L) (huv : u ≠ v)
    (x : SName) : ∃ y, y ∈ L ∧ y ≠ x := by
  by_cases e : x = u
  · exact ⟨v, hv, fun e' => huv (e'.trans e).symm⟩
  · exact ⟨u, hu, fun e' => e e'.symm⟩

theorem addRes_cv_iff {s : AR} (w : WFR s) {a b : SName} (hb : b ∉ s.aliases a)
    (hpre : b ∉ s.aliases (tog a)) (c : String) :
    c ∈ (s.addRes a b).cv ↔ (s.addRes a b).cmap (false, c) = some (c, false) := by
  have h := w.cls
  have hma : rep (s.canonicalSigned a) ∈ AA s a b := List.mem_append_left _ (w.rep_mem a)
  have hmb : rep (s.canonicalSigned b) ∈ AA s a b := List.mem_append_right _ (w.rep_mem b)
  have hne : (s.canonicalSigned a).1 ≠ (s.canonicalSigned b).1 := fun e =>
    ((same_canonical_iff w a b).1 e).elim hb hpre
  -- both signs at once: a member `(sg, c)` of the merged class
  have mem : ∀ sg, (sg, c) ∈ AA s a b →
      ((c ∈ s.cv ∨ c = (s.canonicalSigned a).1) ∧ c ≠ (s.canonicalSigned b).1 ↔
        s.canonicalSigned a = (c, sg)) := by
    intro sg hk
    constructor
    · rintro ⟨hc, hcb⟩
      have hk' : s.canonicalSigned (sg, c) = (c, sg) :=
        hc.elim (w.can_of_cv · sg) fun e => e ▸ canon_self w a sg
      exact (List.mem_append.1 hk).elim (fun m => (w.can_eq a _ m).symm.trans hk')
        fun m => absurd (congrArg Prod.fst ((w.can_eq b _ m).symm.trans hk')).symm hcb
    · intro e
      have e1 : (s.canonicalSigned a).1 = c := congrArg Prod.fst e
      exact ⟨Or.inr e1.symm, e1 ▸ hne⟩
  rw [mem_cv_addRes]
  rcases addRes_cases h hpre (false, c) with ⟨hx, _, hcm⟩ | ⟨hx, _, hcm⟩ | ⟨hx, hnx, _, hcm⟩ <;> rw [hcm]
  · rw [mem false hx, Option.some.injEq]
  · rw [mem true hx, Option.some.injEq]
    exact ⟨fun e => e ▸ rfl, fun e => by rw [← flipIf_flipIf (s.canonicalSigned a), e]; rfl⟩
  · -- outside the merged class: neither `a`'s nor `b`'s canonical name is `c`
    have out : ∀ p : String × Bool, rep p ∈ AA s a b → c ≠ p.1 := by
      rintro ⟨_, sg⟩ hp rfl
      cases sg
      · exact hx hp
      · exact hnx hp
    rw [← w.cv_iff c]
    exact ⟨fun ⟨hc, _⟩ => hc.resolve_right (out _ hma), fun hc => ⟨Or.inl hc, out _ hmb⟩⟩

theorem addRes_wfr {s : AR} (w : WFR s) {a b : SName} (hb : b ∉ s.aliases a)
    (hpre : b ∉ s.aliases (tog a)) : WFR (s.addRes a b) := by
  have h := w.cls
  have hA : a ∈ AA s a b := List.mem_append_left _ (mem_aliases_self h a)
  have hB : b ∈ AA s a b := List.mem_append_right _ (mem_aliases_self h b)
  have hab : a ≠ b := fun e => hb (e ▸ mem_aliases_self h a)
  have hma : rep (s.canonicalSigned a) ∈ AA s a b := List.mem_append_left _ (w.rep_mem a)
  have togm : ∀ {z}, z ∈ AA s a b → tog z ∈ AA s (tog a) (tog b) := fun hz =>
    (union_tog h a b _).2 (by rwa [tog_tog])
  refine WFR.of_pointwise (addRes_inv h hpre) (fun x => ?_) (addRes_cv_iff w hb hpre)
    (List.Pairwise.filter _ (nodup_ite_append _ w.cv_nodup))
  rcases addRes_cases h hpre x with ⟨hx, hal, hcm⟩ | ⟨hx, hal, hcm⟩ | ⟨hx, hnx, hal, hcm⟩
  · rw [hal, hcm, aliases_of_some hal, canonicalSigned_of_some hcm]
    refine ⟨⟨nofun, nofun⟩, fun S hS => ?_, hma,
      fun y hy => canonicalSigned_of_some (addRes_pos h hpre hy).2,
      canonicalSigned_of_some (addRes_neg h hpre (by rwa [tog_tog])).2⟩
    cases hS; exact exists_mem_ne hA hB hab x
  · rw [hal, hcm, aliases_of_some hal, canonicalSigned_of_some hcm, flipIf_flipIf]
    refine ⟨⟨nofun, nofun⟩, fun S hS => ?_, ?_,
      fun y hy => canonicalSigned_of_some (addRes_neg h hpre ((union_tog h a b y).1 hy)).2,
      canonicalSigned_of_some (addRes_pos h hpre hx).2⟩
    · cases hS
      exact exists_mem_ne (togm hA) (togm hB) (fun e => hab (tog_inj e)) x
    · rw [rep_flipIf]; exact togm hma
  · have hnnx : tog (tog x) ∉ AA s a b := by rwa [tog_tog]
    rw [hal, hcm, aliases_congr hal, canonicalSigned_congr hcm,
      canonicalSigned_congr (addRes_out s hnx hnnx).2]
    refine ⟨w.dom x, w.nontriv x, w.rep_mem x, fun y hy => ?_, w.can_neg x⟩
    obtain ⟨hy1, hy2⟩ := union_outside h hx hnx hy
    rw [canonicalSigned_congr (addRes_out s hy1 hy2).2]; exact w.can_eq x y hy

theorem WFR.add {s : AR} (w : WFR s) {a b : SName} (hpre : b ∉ s.aliases (tog a)) :
    ∃ s', s.add a b = some s' ∧ WFR s' := by
  by_cases hb : b ∈ s.aliases a
  · exact ⟨s, add_noop w.cls hb, w⟩
  · exact ⟨_, add_eff hb, addRes_wfr w hb hpre⟩

end PymocaVerif.AliasRel
