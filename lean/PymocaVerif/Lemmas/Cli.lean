import PymocaVerif.Model.Cli
/-!
Lemmas for C26.  Every loop of `Cli.main` computes a count, in both variants (the variant decides
what is counted and whether an exception escapes); `main` itself, once argparse has accepted the
invocation, returns `usageCount` if that is not zero and otherwise runs the loops of its target.
-/
namespace PymocaVerif.Cli

theorem count_loop {α} {L : List α → Nat → Nat} {p : α → Bool} (hnil : ∀ e, L [] e = e)
    (hcons : ∀ a l e, L (a :: l) e = L l (if p a then e + 1 else e)) (l : List α) (e : Nat) :
    L l e = e + (l.filter p).length := by
  induction l generalizing e with
  | nil => exact hnil e
  | cons a l ih =>
    rw [hcons, ih, List.filter_cons]
    cases p a
    · rfl
    · exact Nat.add_right_comm e 1 _

theorem count_eq_sum {α} (p : α → Bool) (l : List α) :
    (l.filter p).length = (l.map (fun a => if p a then 1 else 0)).sum := by
  induction l with
  | nil => rfl
  | cons a l ih => cases h : p a <;> simp [h, ih] <;> omega

theorem flattenLoop_eq (fs : List FileInfo) (ms : List ModelReq) (e : Nat) :
    flattenLoop ms e = e + (ms.filter (modelFails .none fs)).length :=
  count_loop (fun _ => rfl)
    (fun m ms e => by
      show flattenLoop ms _ = flattenLoop ms (if (!m.flattenOk) = true then _ else _)
      cases m.flattenOk <;> rfl)
    ms e

/-- No exception escapes `parse_all` in the current code, nor in the old code when no file raises. -/
theorem parseAll_eq_some {v : Variant} {fs : List FileInfo}
    (h : v = .fixed ∨ ∀ f ∈ fs, f.parse ≠ .raise) :
    parseAll v fs = some (fs.filter (fun f => f.parse ≠ .ok)).length := by
  induction fs with
  | nil => rfl
  | cons f fs ih =>
    have ih := ih (h.imp_right fun h g hg => h g (List.mem_cons_of_mem f hg))
    simp only [parseAll, ih]
    cases hp : f.parse with
    | ok => simp [hp]
    | error => simp [hp]
    | raise =>
      rcases h with rfl | h
      · simp [hp]
      · exact absurd hp (h f List.mem_cons_self)

theorem parseAll_old_raise {fs : List FileInfo} (h : ∃ f ∈ fs, f.parse = .raise) :
    parseAll .old fs = none := by
  obtain ⟨f, hf, hr⟩ := h
  induction fs with
  | nil => cases hf
  | cons g fs ih =>
    simp only [parseAll]
    rcases List.mem_cons.1 hf with rfl | hf
    · rw [hr]
    · rw [ih hf]
      cases g.parse <;> rfl

/-- What the `-t sympy` arm counts: since c313463 every model whose translation does not succeed,
    before it nothing. -/
def sympyCounts : Variant → ModelReq → Bool
  | .fixed, m => m.sympy != .ok
  | .old, _ => false

/-- One iteration of the `-t sympy` loop, as long as no exception escapes it. -/
theorem sympyLoop_cons {v : Variant} {m : ModelReq} (h : v = .fixed ∨ m.sympy ≠ .raise)
    (ms : List ModelReq) (e : Nat) (w : List String) :
    sympyLoop v (m :: ms) e w = sympyLoop v ms (if sympyCounts v m then e + 1 else e)
      (if m.sympy == .ok then w ++ [m.name] else w) := by
  cases v <;> cases hs : m.sympy
  case old.raise => exact absurd hs (h.resolve_left nofun)
  all_goals
    simp only [sympyLoop, sympyCounts, hs]
    rfl

theorem sympyLoop_eq {v : Variant} {ms : List ModelReq} (e : Nat) (w : List String)
    (h : v = .fixed ∨ ∀ m ∈ ms, m.sympy ≠ .raise) :
    sympyLoop v ms e w = .ret (e + (ms.filter (sympyCounts v)).length)
      (w ++ (ms.filter (fun m => m.sympy == .ok)).map (·.name)) := by
  induction ms generalizing e w with
  | nil => exact congrArg (Outcome.ret e) (List.append_nil w).symm
  | cons m ms ih =>
    rw [sympyLoop_cons (h.imp_right fun h => h m List.mem_cons_self),
      ih _ _ (h.imp_right fun h g hg => h g (List.mem_cons_of_mem m hg)),
      List.filter_cons, List.filter_cons]
    congr 1
    · cases sympyCounts v m
      · rfl
      · exact Nat.add_right_comm e 1 _
    · cases m.sympy == .ok
      · rfl
      · exact List.append_assoc w [m.name] _

theorem sympyLoop_old_raise {ms : List ModelReq} (e : Nat) (w : List String)
    (h : ∃ m ∈ ms, m.sympy = .raise) : sympyLoop .old ms e w = .raised := by
  obtain ⟨m, hm, hr⟩ := h
  induction ms generalizing e w with
  | nil => cases hm
  | cons g ms ih =>
    rcases List.mem_cons.1 hm with rfl | hm
    · simp only [sympyLoop, hr]
    · cases hg : g.sympy <;> simp only [sympyLoop, hg, ih _ _ hm]

/-- The scan once a directory has been found: any further match is an ambiguity. -/
theorem inferDir_some (name : String) (fs : List FileInfo) (d : Nat) :
    inferDir name fs (some d) =
      if (fs.filter (fun f => f.stem = name)).isEmpty then (some d, false) else (none, true) := by
  induction fs with
  | nil => simp [inferDir]
  | cons f fs ih =>
    by_cases h : f.stem = name <;> simp [inferDir, h, ih]

/-- Verdict of the scan as a function of the listed files that carry the model's stem. -/
def verdict : List FileInfo → Option Nat × Bool
  | [] => (none, false)
  | [f] => (some f.dir, false)
  | _ => (none, true)

theorem inferDir_none (name : String) (fs : List FileInfo) :
    inferDir name fs none = verdict (fs.filter (fun f => f.stem = name)) := by
  induction fs with
  | nil => simp [inferDir, verdict]
  | cons f fs ih =>
    by_cases h : f.stem = name
    · simp only [inferDir, h, if_true, List.filter_cons, decide_true, inferDir_some]
      cases hf : fs.filter (fun f => decide (f.stem = name)) <;> simp [verdict]
    · simp [inferDir, h, ih]

/-- Old code: only ambiguity and failures of `transfer_model` are counted. -/
def oldCasadiCounts (m : ModelReq) : List FileInfo → Bool
  | [] => false
  | [f] => !casadiOk m f.dir
  | _ => true

/-- What the `-t casadi` arm counts for a model, given the listed files with its stem. -/
def casadiCounts : Variant → ModelReq → List FileInfo → Bool
  | .fixed => casadiFails
  | .old => oldCasadiCounts

theorem casadiStep_eq (v : Variant) (m : ModelReq) (l : List FileInfo) (e : Nat) :
    casadiStep v m (verdict l) e = if casadiCounts v m l then e + 1 else e := by
  rcases l with _ | ⟨f, _ | ⟨g, r⟩⟩
  · cases v <;> rfl
  · have h : (if casadiOk m f.dir then e else e + 1) = if !casadiOk m f.dir then e + 1 else e := by
      cases casadiOk m f.dir <;> rfl
    cases v <;> exact h
  · cases v <;> rfl

theorem casadiLoop_eq (v : Variant) (files : List FileInfo) (ms : List ModelReq) (e : Nat) :
    casadiLoop v files ms e = e + (ms.filter
      (fun m => casadiCounts v m (files.filter (fun f => f.stem = m.name)))).length :=
  count_loop (fun _ => rfl) (fun m ms e => by rw [casadiLoop, inferDir_none, casadiStep_eq]) ms e

theorem oldCasadiCounts_eq (m : ModelReq) (l : List FileInfo) (h : l ≠ []) :
    oldCasadiCounts m l = casadiFails m l := by
  rcases l with _ | ⟨f, _ | ⟨g, r⟩⟩
  · exact absurd rfl h
  · rfl
  · rfl

theorem usageCount_eq_zero {inv : Inv} :
    usageCount inv = 0 ↔ usageErrors inv = 0 ∧ (allFiles inv).isEmpty = false := by
  unfold usageCount
  cases (allFiles inv).isEmpty <;> simp

theorem parseErrorFiles_eq {inv : Inv} (hu : usageCount inv = 0) (ht : inv.target ≠ .casadi) :
    parseErrorFiles inv = ((allFiles inv).filter (fun f => f.parse ≠ .ok)).length :=
  if_pos ⟨hu, ht⟩

theorem failingModels_eq {inv : Inv} (hu : usageCount inv = 0) (hp : parseErrorFiles inv = 0) :
    failingModels inv = (inv.models.filter (modelFails inv.target (allFiles inv))).length :=
  if_pos ⟨hu, hp⟩

section
variable {v : Variant} {inv : Inv} (hap : inv.argparse = .ok)
  (hm : ¬ (inv.target ≠ .none ∧ inv.models = []))
include hap hm

theorem main_eq : main v inv =
    if usageErrors inv ≠ 0 then .ret (usageErrors inv) [] else
    if (allFiles inv).isEmpty then .ret 1 [] else
    match inv.target with
    | .casadi => .ret (casadiLoop v (allFiles inv) inv.models 0) []
    | t =>
      match parseAll v (allFiles inv) with
      | none => .raised
      | some bad =>
        if bad ≠ 0 then .ret bad [] else
        if t = .sympy then sympyLoop v inv.models 0 [] else .ret (flattenLoop inv.models 0) [] := by
  rw [← List.isEmpty_iff] at hm
  unfold main
  rw [hap]
  simp only [if_neg hm]
  cases inv.target <;> rfl

theorem main_usage (hu : usageCount inv ≠ 0) : main v inv = .ret (usageCount inv) [] := by
  rw [main_eq hap hm]
  unfold usageCount at hu ⊢
  by_cases h0 : usageErrors inv = 0
  · cases hf : (allFiles inv).isEmpty
    · simp [h0, hf] at hu
    · simp [h0]
  · simp [h0]

theorem main_casadi (hu : usageCount inv = 0) (ht : inv.target = .casadi) :
    main v inv = .ret (inv.models.filter fun m =>
      casadiCounts v m ((allFiles inv).filter (fun f => f.stem = m.name))).length [] := by
  obtain ⟨h0, hf⟩ := usageCount_eq_zero.1 hu
  rw [main_eq hap hm, if_neg fun h => h h0, hf, ht, casadiLoop_eq, Nat.zero_add]
  rfl

theorem main_parse (hu : usageCount inv = 0) (ht : inv.target ≠ .casadi) :
    main v inv =
      match parseAll v (allFiles inv) with
      | none => .raised
      | some bad =>
        if bad ≠ 0 then .ret bad [] else
        if inv.target = .sympy then sympyLoop v inv.models 0 [] else
          .ret (flattenLoop inv.models 0) [] := by
  obtain ⟨h0, hf⟩ := usageCount_eq_zero.1 hu
  rw [main_eq hap hm, if_neg fun h => h h0, hf]
  cases h : inv.target with
  | casadi => exact absurd h ht
  | none => rfl
  | sympy => rfl

theorem main_models (hu : usageCount inv = 0) (ht : inv.target ≠ .casadi)
    (hp : parseErrorFiles inv = 0) (h4 : v = .fixed ∨ ∀ f ∈ allFiles inv, f.parse ≠ .raise) :
    main v inv = if inv.target = .sympy then sympyLoop v inv.models 0 [] else
      .ret (flattenLoop inv.models 0) [] := by
  rw [main_parse hap hm hu ht, parseAll_eq_some h4, ← parseErrorFiles_eq hu ht, hp]
  rfl

/-- The exit status is the specified count, in either variant, as soon as no exception escapes
    the loop that runs and that loop counts what the specification counts. -/
theorem exit_counts_of
    (hparse : inv.target ≠ .casadi → v = .fixed ∨ ∀ f ∈ allFiles inv, f.parse ≠ .raise)
    (hsympy : inv.target = .sympy → (v = .fixed ∨ ∀ m ∈ inv.models, m.sympy ≠ .raise) ∧
      ∀ m ∈ inv.models, sympyCounts v m = modelFails .sympy (allFiles inv) m)
    (hcasadi : inv.target = .casadi → ∀ m ∈ inv.models,
      casadiCounts v m ((allFiles inv).filter (fun f => f.stem = m.name)) =
        modelFails .casadi (allFiles inv) m) :
    ∃ w, main v inv = .ret (usageCount inv + parseErrorFiles inv + failingModels inv) w := by
  by_cases hu : usageCount inv = 0
  · by_cases ht : inv.target = .casadi
    · have hp : parseErrorFiles inv = 0 := if_neg fun h => h.2 ht
      rw [main_casadi hap hm hu ht, hu, hp, failingModels_eq hu hp, ht,
        List.filter_congr (hcasadi ht), Nat.zero_add]
      exact ⟨[], rfl⟩
    · by_cases hp : parseErrorFiles inv = 0
      · rw [main_models hap hm hu ht hp (hparse ht), hu, hp, failingModels_eq hu hp, Nat.zero_add]
        cases h : inv.target with
        | casadi => exact absurd h ht
        | none => exact ⟨[], by rw [if_neg nofun, flattenLoop_eq (allFiles inv), Nat.zero_add]⟩
        | sympy =>
          rw [if_pos rfl, sympyLoop_eq 0 [] (hsympy h).1, List.filter_congr (hsympy h).2, Nat.zero_add]
          exact ⟨_, rfl⟩
      · have hfm : failingModels inv = 0 := if_neg fun h => hp h.2
        rw [main_parse hap hm hu ht, parseAll_eq_some (hparse ht), ← parseErrorFiles_eq hu ht,
          hu, hfm, Nat.zero_add, Nat.add_zero]
        exact ⟨[], if_pos hp⟩
  · have hp : parseErrorFiles inv = 0 := if_neg fun h => hu h.1
    have hfm : failingModels inv = 0 := if_neg fun h => hu h.1
    rw [main_usage hap hm hu, hp, hfm]
    exact ⟨[], rfl⟩

end

/-- The same invocation with another list of requested models. -/
def Inv.withModels (inv : Inv) (ms : List ModelReq) : Inv := { inv with models := ms }

theorem modelFails_none (fs : List FileInfo) : modelFails .none fs = fun m => !m.flattenOk := rfl
theorem modelFails_sympy (fs : List FileInfo) : modelFails .sympy fs = fun m => m.sympy != .ok := rfl

end PymocaVerif.Cli
