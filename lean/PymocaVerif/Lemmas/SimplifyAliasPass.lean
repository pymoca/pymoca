import PymocaVerif.Lemmas.SimplifyAliasInv
import PymocaVerif.Lemmas.SimplifyAlias
import PymocaVerif.Lemmas.SimplifyComplete
/-!
# Simplify: one `detect_aliases` pass under the invariant of the alias relation

A dropping call of `_make_alias` is an `add` of two unrelated names and keeps `WF`, `JInv`, `Ext` (`jinv_add`).
One induction over the detection loop and the closed form of the elimination loop give the record `AliasRun`,
from which balance, closedness and completeness of the pass follow.
-/
set_option linter.unusedSectionVars false
namespace PymocaVerif.Simplify
open PymocaVerif.AliasRel Lean.Grind

variable {K : Type} [Field K] [DecidableEq K]

theorem AddFacts.admissible {cx : AliasCtx} {s s' : AR} {d0 d1 : String} {neg : Bool} {alg other : String}
    (hf : AddFacts cx s s' d0 d1 neg alg other) (h : WF s) :
    ((neg, alg) : SName) ∉ s.aliases (false, other) ∧ ((neg, alg) : SName) ∉ s.aliases (tog (false, other)) := by
  constructor
  · intro hin
    have := h.aliases_symm hin
    cases neg
    · exact hf.unrel1 this
    · exact hf.unrel2 this
  · intro hin
    rw [h.aliases_tog] at hin
    have := h.aliases_symm (mem_map_tog.1 hin)
    cases neg
    · exact hf.unrel2 this
    · exact hf.unrel1 this

/-- the members of a recorded class other than its canonical variable are never protected variables
    (states, derivatives, inputs, parameters, constants): they are algebraic, or were eliminated by an
    earlier pass -/
def JInv (cx : AliasCtx) (s : AR) : Prop :=
  ∀ x A, s.al x = some A → ∀ y ∈ A, y.2 ≠ (s.canonicalSigned x).1 → y.2 ∉ cx.doNotEliminate

theorem jinv_empty (cx : AliasCtx) : JInv cx AR.empty := fun _ _ hx => nomatch hx

theorem alg_of_not_dne {cx : AliasCtx} {n : String} (h1 : n ∈ cx.allSt) (h2 : n ∉ cx.doNotEliminate) : n ∈ cx.algs := by
  rw [mem_allSt] at h1
  rw [mem_doNotEliminate] at h2
  rcases h1 with h | h | h | h | h | h
  · exact absurd (Or.inr (Or.inl h)) h2
  · exact absurd (Or.inl h) h2
  · exact h
  · exact absurd (Or.inr (Or.inr (Or.inl h))) h2
  · exact absurd (Or.inr (Or.inr (Or.inr (Or.inl h)))) h2
  · exact absurd (Or.inr (Or.inr (Or.inr (Or.inr h)))) h2

theorem algs_sub_allSt {cx : AliasCtx} {n : String} (h : n ∈ cx.algs) : n ∈ cx.allSt :=
  mem_allSt.2 (Or.inr (Or.inr (Or.inl h)))

theorem jinv_aliases {cx : AliasCtx} {s : AR} (h : WF s) (hj : JInv cx s) {x y : SName} (hy : y ∈ s.aliases x) :
    y.2 ≠ (s.canonicalSigned x).1 → y.2 ∉ cx.doNotEliminate := by
  cases hal : s.al x with
  | none =>
    rw [aliases_of_none hal] at hy
    obtain rfl := List.mem_singleton.1 hy
    exact fun hne => absurd (by rw [canonicalSigned_of_none (h.cm_none y hal)]) hne
  | some A => exact hj x A hal y (aliases_of_some hal ▸ hy)

theorem jinv_add {cx : AliasCtx} {old s s' : AR} {d0 d1 : String} {neg : Bool} {alg other : String}
    (h : WF s) (hj : JInv cx s) (he : Ext old s) (hf : AddFacts cx s s' d0 d1 neg alg other) :
    WF s' ∧ JInv cx s' ∧ Ext old s' ∧ elimCount s' = elimCount s + 1 := by
  obtain ⟨hb, hadm⟩ := hf.admissible h
  have hwf := h.add_wf hb hadm hf.add
  refine ⟨hwf, ?_, he.add h hb hadm hf.add, elimCount_add h hb hadm hf.add⟩
  -- the canonical variable of alg's class is not protected
  have hcanon_alg : (s.canonicalSigned (false, alg)).1 ∉ cx.doNotEliminate := by
    by_cases ho : other ∈ cx.algs
    · rcases hf.swap ho with h1 | h1
      · exact h1
      · exact fun h2 => hf.not_both ⟨h2, h1⟩
    · -- other is protected, so it is the canonical variable of its own class
      have hod : other ∈ cx.doNotEliminate := Classical.not_not.1 fun hd => ho (alg_of_not_dne hf.other_mem hd)
      have hself : (s.canonicalSigned (false, other)).1 = other := Classical.not_not.1 fun hse =>
        jinv_aliases h hj (h.aliases_self (false, other)) (fun e => hse e.symm) hod
      exact fun h2 => hf.not_both ⟨h2, hself.symm ▸ hod⟩
  -- so every member of the joined class other than the canonical variable of `other` is unprotected
  have hmemA : ∀ y ∈ s.aliases (false, other) ++ s.aliases (neg, alg),
      y.2 ≠ (s.canonicalSigned (false, other)).1 → y.2 ∉ cx.doNotEliminate := by
    intro y hy
    rcases List.mem_append.1 hy with hy | hy
    · exact jinv_aliases h hj hy
    · intro _
      by_cases hye : y.2 = (s.canonicalSigned (neg, alg)).1
      · rw [hye, h.canon_base (a := (false, alg)) (a' := (neg, alg)) rfl]; exact hcanon_alg
      · exact jinv_aliases h hj hy hye
  have hin : ∀ x ∈ s.aliases (false, other) ++ s.aliases (neg, alg), ∀ y ∈ s'.aliases x,
      y.2 ≠ (s'.canonicalSigned x).1 → y.2 ∉ cx.doNotEliminate := by
    intro x hxA y hy
    rw [add_aliases_in h hb hadm hf.add hxA] at hy
    rw [add_canon_in h hb hadm hf.add hxA]
    exact hmemA y hy
  intro x B hx y hy
  have hyB : y ∈ s'.aliases x := aliases_of_some hx ▸ hy
  by_cases hxA : x ∈ s.aliases (false, other) ++ s.aliases (neg, alg)
  · exact hin x hxA y hyB
  · by_cases hxA' : tog x ∈ s.aliases (false, other) ++ s.aliases (neg, alg)
    · -- the mirror image of the joined class has the same base names
      have := hin (tog x) hxA' (tog y) (by rw [hwf.aliases_tog x]; exact List.mem_map_of_mem hyB)
      rwa [hwf.canon_base (a := x) (a' := tog x) rfl] at this
    · rw [add_aliases_out h hb hadm hf.add hxA hxA'] at hyB
      rw [add_canon_out h hb hadm hf.add hxA hxA']
      exact jinv_aliases h hj hyB

/-- what a run of the detection loop from `ar` (equations `es`, first index `i`) to `ar'` establishes; `old` is the
    relation the pass started from -/
structure LoopRun (E : Engine K) (cx : AliasCtx) (old : AR) (i : Nat) (es : List (Ex K)) (ar : AR)
    (kept : List (Ex K)) (ar' : AR) : Prop where
  wf : WF ar'
  jinv : JInv cx ar'
  ext : Ext old ar'
  /-- one more non-canonical name per dropped equation -/
  count : elimCount ar' + kept.length = elimCount ar + es.length
  kept_sub : ∀ e ∈ kept, e ∈ es
  /-- classes only grow -/
  mono : ∀ x y, y ∈ ar.aliases x → y ∈ ar'.aliases x
  /-- the two symbols of a dropped equation end up in one class -/
  dropped : ∀ k e, es[k]? = some e → e ∈ kept ∨ ∃ d0 d1 neg alg other,
    detectAlias E cx (i + k) (E.view (i + k) e) = some (d0, d1, neg) ∧
    ((alg = d0 ∧ other = d1) ∨ (alg = d1 ∧ other = d0)) ∧ ((neg, alg) : SName) ∈ ar'.aliases (false, other)

theorem aliasLoop_run {E : Engine K} {cx : AliasCtx} (old : AR) {es : List (Ex K)} {i : Nat} {ar : AR}
    {r : List (Ex K) × AR} (h : aliasLoop E cx i es ar = .ok r) : WF ar → JInv cx ar → Ext old ar →
    LoopRun E cx old i es ar r.1 r.2 := by
  -- the facts about `es[k]` at index `i + 1 + k` are the facts about `(e :: es)[k + 1]`
  have shift : ∀ i k, i + 1 + k = i + (k + 1) := fun i k => by omega
  refine aliasLoop_induct ?_ ?_ ?_ i es ar r h
  · exact fun i ar hw hj he => ⟨hw, hj, he, rfl, fun _ h => h, fun _ _ h => h, fun k e h => by simp at h⟩
  · intro i e es ar d0 d1 neg ar1 r hdet hmk _ ih hw hj he
    obtain ⟨alg, other, hf⟩ := makeAlias_dropped hmk
    obtain ⟨w1, j1, e1, c1⟩ := jinv_add hw hj he hf
    obtain ⟨hb, hadm⟩ := hf.admissible hw
    have R := ih w1 j1 e1
    refine ⟨R.wf, R.jinv, R.ext, ?_, fun x hx => List.mem_cons_of_mem _ (R.kept_sub x hx),
      fun x y hy => R.mono x y (add_mono hw hb hadm hf.add hy), ?_⟩
    · have := R.count
      simp only [List.length_cons]; omega
    · intro k x hx
      cases k with
      | zero =>
        cases hx
        exact Or.inr ⟨d0, d1, neg, alg, other, hdet, hf.pair, R.mono _ _ (add_joined hw hb hadm hf.add)⟩
      | succ k => exact shift i k ▸ R.dropped k x hx
  · intro i e es ar r' _ ih hw hj he
    have R := ih hw hj he
    refine ⟨R.wf, R.jinv, R.ext, ?_, ?_, R.mono, ?_⟩
    · have := R.count
      simp only [List.length_cons]; omega
    · intro x hx
      exact List.mem_cons.2 ((List.mem_cons.1 hx).imp_right (R.kept_sub x))
    · intro k x hx
      cases k with
      | zero => cases hx; exact Or.inl (List.mem_cons_self ..)
      | succ k => exact (shift i k ▸ R.dropped k x hx).imp_left (List.mem_cons_of_mem _)

theorem newAliases_first {ar : AR} (hw : WF ar) (c : String) :
    newAliases AR.empty ar c = (ar.aliases (false, c)).filter (· != (false, c)) := by
  rw [wf_empty.newAliases_eq hw]
  exact List.filter_eq_self.2 fun a _ => rfl

theorem newAliases_first_length {ar : AR} (hw : WF ar) (c : String) :
    (newAliases AR.empty ar c).length = (ar.aliases (false, c)).length - 1 := by
  rw [newAliases_first hw]
  exact hw.classRest_length c

theorem elimCount_empty : elimCount AR.empty = 0 := rfl

theorem eliminated_now {cx : AliasCtx} {old ar : AR} (ho : WF old) (hw : WF ar) (hj : JInv cx ar) {c : String} (hc : c ∈ ar.cv)
    {a : SName} (ha : a ∈ newAliases old ar c) : a.2 ∉ cx.doNotEliminate ∧ a.2 ∉ ar.cv := by
  rw [ho.newAliases_eq hw] at ha
  have har : a ∈ classRest ar c := (List.mem_filter.1 ha).1
  have hb := hw.rest_base hc har
  refine ⟨?_, hb.2⟩
  have hmem := (List.mem_filter.1 har).1
  have := jinv_aliases hw hj hmem
  rw [hw.cv_canon hc] at this
  exact this hb.1

/-- what a successful pass from the relation `old` establishes: `kept` and `ar` come out of the detection loop on
    `es`, the substitution `l` and the remaining names `left` out of the elimination loop -/
structure AliasRun (E : Engine K) (cx : AliasCtx) (old ar : AR) (es kept : List (Ex K)) (l : List (String × Ex K))
    (left : List String) : Prop where
  loop : LoopRun E cx old 0 es old kept ar
  /-- one eliminated name per dropped equation -/
  count : kept.length + l.length = es.length
  bindings : l = ar.cv.flatMap fun c => (newAliases old ar c).map (aliasBinding c)
  nodup : (l.map (·.1)).Nodup
  /-- only algebraic variables are eliminated, and never a canonical one -/
  algs : ∀ n ∈ l.map (·.1), n ∈ cx.algs
  not_cv : ∀ n ∈ l.map (·.1), n ∉ ar.cv
  cv_mem : ∀ c ∈ ar.cv, c ∈ cx.allSt
  left : ∀ n, n ∈ left ↔ n ∈ cx.allSt ∧ n ∉ l.map (·.1)

theorem alias_run {E : Engine K} {cx : AliasCtx} {old ar : AR} {es kept : List (Ex K)} {l : List (String × Ex K)}
    {left : List String} (ho : WF old) (hjo : JInv cx old) (hloop : aliasLoop E cx 0 es old = .ok (kept, ar))
    (hel : elimAliases old ar ar.cv cx.allSt = .ok (l, left)) : AliasRun E cx old ar es kept l left := by
  have R : LoopRun E cx old 0 es old kept ar := aliasLoop_run old hloop ho hjo (Ext.refl _)
  obtain ⟨hb, hleft, hnd, hS, hcv⟩ := elimAliases_ok hel
  have hb : l = ar.cv.flatMap fun c => (newAliases old ar c).map (aliasBinding c) := hb
  have hkey : ∀ n ∈ l.map (·.1), ∃ c ∈ ar.cv, ∃ a ∈ newAliases old ar c, n = a.2 := by
    intro n hn
    obtain ⟨p, hp, rfl⟩ := List.mem_map.1 hn
    rw [hb] at hp
    obtain ⟨c, hc, hp⟩ := List.mem_flatMap.1 hp
    obtain ⟨a, ha, rfl⟩ := List.mem_map.1 hp
    exact ⟨c, hc, a, ha, rfl⟩
  have hlen : l.length = (ar.cv.map fun c => (newAliases old ar c).length).sum := by
    rw [hb, List.length_flatMap]
    simp only [List.length_map]
  have hnow := elim_now_count ho R.wf R.ext
  have hcount := R.count
  refine ⟨R, by omega, hb, hnd, ?_, ?_, hcv, hleft⟩
  · intro n hn
    obtain ⟨c, hc, a, ha, rfl⟩ := hkey n hn
    exact alg_of_not_dne (hS _ hn) (eliminated_now ho R.wf R.jinv hc ha).1
  · intro n hn
    obtain ⟨c, hc, a, ha, rfl⟩ := hkey n hn
    exact (eliminated_now ho R.wf R.jinv hc ha).2

theorem mem_names_filter {left : List String} {vs : List (Var K)} {n : String} :
    n ∈ names (vs.filter fun v => left.contains v.name) ↔ n ∈ names vs ∧ n ∈ left := by
  simp only [names, List.mem_map, List.mem_filter, List.contains_iff_mem]
  constructor
  · rintro ⟨v, ⟨hv, hl⟩, rfl⟩; exact ⟨⟨v, hv, rfl⟩, hl⟩
  · rintro ⟨⟨v, hv, rfl⟩, hl⟩; exact ⟨v, ⟨hv, hl⟩, rfl⟩

theorem filter_remove_count {D : List String} {vs : List (Var K)} (hnd : (names vs).Nodup) (hD : D.Nodup)
    (hsub : ∀ x ∈ D, x ∈ names vs) : (vs.filter fun v => !(D.contains v.name)).length + D.length = vs.length := by
  have hperm : (names (vs.filter fun v => D.contains v.name)).Perm D :=
    (List.perm_ext_iff_of_nodup (filter_name_nodup hnd) hD).2 fun n =>
      mem_names_filter.trans ⟨fun h => h.2, fun h => ⟨hsub n h, h⟩⟩
  have hlen := hperm.length_eq
  rw [names, List.length_map] at hlen
  have := List.length_eq_countP_add_countP (fun v : Var K => D.contains v.name) (l := vs)
  rw [List.countP_eq_length_filter, List.countP_eq_length_filter, hlen,
    List.filter_congr (q := fun v : Var K => !(D.contains v.name)) fun v _ => by
      cases D.contains v.name <;> simp] at this
  omega

/-- `balance_step` for detect_aliases, any pass -/
theorem alias_balanced {E : Engine K} {allowDer : Bool} {m m' : Model K} (ho : WF m.ar)
    (hjo : JInv (m.aliasCtx allowDer) m.ar) (hnd : NamesNodup m)
    (h : detectAliases E allowDer m = .ok m') : Balanced m m' := by
  obtain ⟨kept, ar, l, left, hloop, hel, rfl⟩ := detectAliases_ok h
  have R := alias_run ho hjo hloop hel
  have hleft : ∀ v : Var K, left.contains v.name = true ↔ v.name ∈ (m.aliasCtx allowDer).allSt ∧ v.name ∉ l.map (·.1) :=
    fun v => List.contains_iff_mem.trans (R.left v.name)
  -- every state stays: only algebraic variables go
  have hstates : (m.states.filter fun v => left.contains v.name) = m.states := by
    rw [List.filter_eq_self]
    intro v hv
    have hn : v.name ∈ names m.states := List.mem_map_of_mem hv
    exact (hleft v).2 ⟨mem_allSt.2 (Or.inl hn), fun hk => hnd.alg_not_state (R.algs _ hk) hn⟩
  have halgs : (m.algs.filter fun v => left.contains v.name) = m.algs.filter fun v => !((l.map (·.1)).contains v.name) := by
    apply List.filter_congr
    intro v hv
    have hn : v.name ∈ names m.algs := List.mem_map_of_mem hv
    rw [Bool.eq_iff_iff, hleft v, Bool.not_eq_true', ← Bool.not_eq_true, List.contains_iff_mem]
    exact ⟨fun h => h.2, fun h => ⟨algs_sub_allSt hn, h⟩⟩
  have hcnt := filter_remove_count hnd.algs R.nodup R.algs
  have hcount := R.count
  simp only [Balanced, nUnknowns, List.length_map, hstates, halgs] at hcnt ⊢
  omega

/-- `closed_step` for detect_aliases, any pass -/
theorem alias_closed {I : Interp K} {E : Engine K} (hE : EngineOk I E) {allowDer : Bool} {m m' : Model K}
    (ho : WF m.ar) (hjo : JInv (m.aliasCtx allowDer) m.ar) (hc : Closed m)
    (h : detectAliases E allowDer m = .ok m') : Closed m' := by
  obtain ⟨kept, ar, l, left, hloop, hel, hm'⟩ := detectAliases_ok h
  have R := alias_run ho hjo hloop hel
  have hc1 : Closed ({ m with eqs := kept } : Model K) := hc.eqs_sub R.loop.kept_sub
  -- a known name that is not eliminated is still a variable of the result
  have hknown : ∀ n ∈ m.known, n ∉ l.map (·.1) → n ∈ m'.known := by
    intro n hn hnl
    have keep : ∀ {vs : List (Var K)}, (n ∈ names vs → n ∈ (m.aliasCtx allowDer).allSt) → n ∈ names vs →
        n ∈ names ((vs.filter fun v => left.contains v.name).map (markAliased ar)) := fun hall h => by
      rw [names_markAliased, mem_names_filter]
      exact ⟨h, (R.left n).2 ⟨hall h, hnl⟩⟩
    rw [hm']
    exact known_mono hn (keep fun h => mem_allSt.2 (.inl h)) (keep fun h => mem_allSt.2 (.inr (.inl h)))
      (keep fun h => mem_allSt.2 (.inr (.inr (.inl h)))) (keep fun h => mem_allSt.2 (.inr (.inr (.inr (.inl h)))))
      (keep fun h => mem_allSt.2 (.inr (.inr (.inr (.inr (.inl h)))))) (by rw [names_markAliased]; exact id)
  intro e he n hn
  rw [hm'] at he
  have hex : e ∈ ({ m with eqs := kept } : Model K).exprs.map (E.sub l) := by
    rw [← mapExprs_exprs]; exact he
  refine closed_sub hE hc1 hknown ?_ e hex n hn
  -- a substituted value is ± a canonical variable, and those stay
  · intro p hp n hn
    rw [R.bindings] at hp
    obtain ⟨c, hcv, hp⟩ := List.mem_flatMap.1 hp
    obtain ⟨a, _, hpa⟩ := List.mem_map.1 hp
    obtain rfl : n = c := aliasBinding_syms (a := a) (by rw [hpa]; exact hn)
    exact hknown n (mem_known.2 (Or.inr (mem_allSt.1 (R.cv_mem n hcv)))) (fun hin => R.not_cv n hin hcv)

theorem aliasOk_of_mono {σ : Env K} {old ar : AR} (ho : WF old) (hm : ∀ x y, y ∈ old.aliases x → y ∈ ar.aliases x)
    (h : AliasOk σ ar) : AliasOk σ old := by
  constructor
  · intro x A hx y hy
    exact aliases_sval h (hm x y (aliases_of_some hx ▸ hy))
  · intro x c hx
    exact (aliases_sval h (hm x _ (canonicalSigned_of_some hx ▸ ho.canon_mem x))).symm

/-- detect_aliases, any pass, loses no constraint: the two symbols of a dropped equation end up in one class
    of the returned relation (`LoopRun.dropped`), and a solution of the result satisfies that relation -/
theorem alias_back {I : Interp K} {E : Engine K} (hE : EngineOk I E) {allowDer : Bool} {m m' : Model K} {τ : Env K}
    (ho : WF m.ar) (hjo : JInv (m.aliasCtx allowDer) m.ar) (hnd : NamesNodup m)
    (hg : ∀ k e, m.eqs[k]? = some e → GzOk I E k (E.view k e))
    (h : detectAliases E allowDer m = .ok m') (hs : Sat I τ m') : Sat I τ m := by
  obtain ⟨kept, ar, l, left, hloop, hel, rfl⟩ := detectAliases_ok h
  have R := alias_run ho hjo hloop hel
  have hok : AliasOk τ ar := hs.alias
  have hl : HoldsL I τ l := elimAliases_holds hok hel
  refine ⟨?_, ?_, valok_markAliased.1 hs.consts, aliasOk_of_mono ho R.loop.mono hok⟩
  · have hkept : EqOk I τ kept := (eqok_sub hE hl).1 hs.eqs
    intro e he
    obtain ⟨k, hk, rfl⟩ := List.mem_iff_getElem.1 he
    have hget : m.eqs[k]? = some m.eqs[k] := List.getElem?_eq_getElem hk
    rcases R.loop.dropped k _ hget with hin | ⟨d0, d1, neg, alg, other, hdet, hpair, hjoin⟩
    · exact hkept _ hin
    · rw [Nat.zero_add] at hdet
      have hcls : (if neg then - τ alg else τ alg) = τ other := by
        simpa [sval] using aliases_sval hok hjoin
      have hrel : τ d0 = if neg then - τ d1 else τ d1 := by
        rcases hpair with ⟨rfl, rfl⟩ | ⟨rfl, rfl⟩
        · cases neg
          · exact hcls
          · exact (AddCommGroup.neg_eq_iff _ _).1 hcls
        · exact hcls.symm
      rw [← hE.view_eval k]
      exact (detectAlias_eval_iff (hg k _ hget) hdet).2 hrel
  · -- no parameter was eliminated
    have hall : (m.params.filter fun v => left.contains v.name) = m.params := by
      rw [List.filter_eq_self]
      intro v hv
      have hn : v.name ∈ names m.params := List.mem_map_of_mem hv
      rw [List.contains_iff_mem, R.left]
      exact ⟨mem_allSt.2 (Or.inr (Or.inr (Or.inr (Or.inr (Or.inl hn))))), fun hk => hnd.alg_not_param (R.algs _ hk) hn⟩
    have := valok_markAliased.1 hs.params
    rwa [hall] at this

end PymocaVerif.Simplify
