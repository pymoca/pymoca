import PymocaVerif.Model.Index
/-! Helper lemmas for C23 (`Model/Index.lean`).  CasADi's slice from `a - 1` to any stop between the last
    member of `a : s : b` and `b` selects the positions of that Modelica range (`casadiSlice_upRange`); each
    selector is characterised once by what an accepted call returns (`*_sound`), and the rejection lemmas
    (`*_oob`) are the contrapositives.  The end-to-end theorems at the bottom hold for every variant of the
    tree on which the checks suffice (`Safe`, `LoopSafe`, three-part ranges read as `start:step:stop`). -/
namespace PymocaVerif.Index

theorem IntS.eval_val {k : IntS} {v : Int} (h : k.eval = some v) : k.val = v := by
  cases k with
  | lit k => exact Option.some.inj h
  | neg k => cases h
  | par w => exact Option.some.inj h

theorem NatS.eval_val {k : NatS} {v : Nat} (h : k.eval = some v) : k.val = (v : Int) := by
  cases k with
  | lit k =>
    cases h
    rfl
  | neg k => cases h
  | par w =>
    cases h
    rfl

theorem NatS.toIntS_eval (k : NatS) : k.toIntS.eval = k.eval.map (fun (v : Nat) => (v : Int)) := by
  cases k <;> rfl

theorem IntS.litVal_val {a : IntS} {k : Nat} (h : a.litVal = some k) : a.val = (k : Int) := by
  cases a with
  | lit k =>
    cases h
    rfl
  | neg k => cases h
  | par w => cases h

theorem NatS.litVal_val {a : NatS} {k : Nat} (h : a.litVal = some k) : a.val = (k : Int) := by
  cases a with
  | lit k =>
    cases h
    rfl
  | neg k => cases h
  | par w => cases h

/-- the last member of `a : s : b` -/
def lastOf (a : Int) (s : Nat) (b : Int) : Int := a + (b - a) / (s : Int) * (s : Int)

theorem lastOf_le (a : Int) (s : Nat) (b : Int) (hs : 0 < s) : lastOf a s b ≤ b :=
  Int.add_le_of_le_sub_left (Int.ediv_mul_le (b - a) (Int.natCast_ne_zero.2 (Nat.ne_of_gt hs)))

theorem le_lastOf (a : Int) (s : Nat) (b : Int) (h : a ≤ b) : a ≤ lastOf a s b :=
  Int.le_add_of_nonneg_right (Int.mul_nonneg
    (Int.ediv_nonneg (Int.sub_nonneg_of_le h) (Int.natCast_nonneg s)) (Int.natCast_nonneg s))

theorem lastOf_one (a b : Int) : lastOf a 1 b = b := by
  show a + (b - a) / 1 * 1 = b
  rw [Int.ediv_one, Int.mul_one, Int.add_comm, Int.sub_add_cancel]

theorem lastOf_add (a : Int) (d s : Nat) : lastOf a s (a + d) = a + ((d / s * s : Nat) : Int) := by
  unfold lastOf
  rw [Int.add_comm a (d : Int), Int.add_sub_cancel]
  rfl

theorem upRange_add (a : Int) (d s : Nat) :
    upRange a s (a + d) = (List.range (d / s + 1)).map (fun (j : Nat) => a + (j : Int) * (s : Int)) := by
  unfold upRange
  rw [Int.add_comm a (d : Int), Int.add_sub_cancel]
  rfl

theorem upRange_empty {a : Int} {s : Nat} {b : Int} (hs : 0 < s) (h : b < a) : upRange a s b = [] := by
  unfold upRange
  have hq : (b - a) / (s : Int) + 1 ≤ 0 :=
    Int.add_one_le_of_lt (Int.ediv_neg_of_neg_of_pos (Int.sub_neg_of_lt h) (Int.natCast_pos.2 hs))
  rw [Int.toNat_eq_zero.2 hq]
  rfl

theorem mem_upRange_bounds {a : Int} {s : Nat} {b i : Int} (h : i ∈ upRange a s b) :
    a ≤ i ∧ i ≤ lastOf a s b := by
  obtain ⟨j, hj, rfl⟩ := List.mem_map.1 h
  have hq : (j : Int) ≤ (b - a) / (s : Int) := Int.le_of_lt_add_one (Int.lt_toNat.1 (List.mem_range.1 hj))
  have hs := Int.natCast_nonneg s
  exact ⟨Int.le_add_of_nonneg_right (Int.mul_nonneg (Int.natCast_nonneg j) hs),
    Int.add_le_add_left (Int.mul_le_mul_of_nonneg_right hq hs) a⟩

theorem first_mem_upRange (a : Int) (s : Nat) (b : Int) (hs : 0 < s) (h : a ≤ b) : a ∈ upRange a s b := by
  have h0 : 0 ≤ (b - a) / (s : Int) :=
    Int.ediv_nonneg (Int.sub_nonneg_of_le h) (Int.le_of_lt (Int.natCast_pos.2 hs))
  refine List.mem_map.2 ⟨0, List.mem_range.2 (Int.lt_toNat.2 (Int.lt_add_one_iff.2 h0)), ?_⟩
  show a + 0 * (s : Int) = a
  rw [Int.zero_mul, Int.add_zero]

theorem last_mem_upRange (a : Int) (s : Nat) (b : Int) (hs : 0 < s) (h : a ≤ b) :
    lastOf a s b ∈ upRange a s b := by
  have h0 : 0 ≤ (b - a) / (s : Int) :=
    Int.ediv_nonneg (Int.sub_nonneg_of_le h) (Int.le_of_lt (Int.natCast_pos.2 hs))
  refine List.mem_map.2 ⟨((b - a) / (s : Int)).toNat, List.mem_range.2 (Int.lt_toNat.2 ?_), ?_⟩
  · rw [Int.toNat_of_nonneg h0]
    exact Int.lt_add_one_iff.2 (Int.le_refl _)
  · rw [Int.toNat_of_nonneg h0]
    rfl

theorem inRange_upRange {n : Nat} {a : Int} {s : Nat} {b : Int} (ha : 1 ≤ a) (hl : lastOf a s b ≤ n) :
    InRange n (upRange a s b) := fun _ hi =>
  have hb := mem_upRange_bounds hi
  ⟨Int.le_trans ha hb.1, Int.le_trans hb.2 hl⟩

theorem not_inRange_of_bad {n : Nat} {d : List Int} (h : ∃ i ∈ d, i < 1 ∨ (n : Int) < i) : ¬ InRange n d := by
  intro hr
  obtain ⟨i, hi, hbad⟩ := h
  exact hbad.elim (Int.not_lt.2 (hr i hi).1) (Int.not_lt.2 (hr i hi).2)

theorem mRange_pos {a : Int} {s : Nat} {b : Int} (hs : 0 < s) : mRange a s b = some (upRange a s b) := by
  unfold mRange
  rw [if_neg (Int.natCast_ne_zero.2 (Nat.ne_of_gt hs)), if_pos (Int.natCast_pos.2 hs), Int.toNat_natCast]

/-- `ForLoop.__init__` passes `stop + 1` to `numpy.arange`: that is the Modelica range up to `stop`. -/
theorem arange_eq_upRange {k e : Int} {st : Nat} (hs : 0 < st) : arange k (e + 1) st = upRange k st e := by
  unfold arange upRange
  have h : (e + 1 - k + (st : Int) - 1) = (e - k) + 1 * (st : Int) := by omega
  rw [h, Int.add_mul_ediv_right _ _ (Int.natCast_ne_zero.2 (Nat.ne_of_gt hs))]

theorem stepList_of_le {st sp step : Nat} (hs : 0 < step) (h : sp ≤ st) : stepList st sp step = [] := by
  unfold stepList
  rw [Nat.sub_eq_zero_of_le h, Nat.zero_add, Nat.div_eq_of_lt (Nat.sub_lt hs Nat.one_pos)]
  rfl

theorem stepList_eq_pos (A : Nat) {d x s : Nat} (hs : 0 < s) (h1 : d / s * s ≤ x) (h2 : x ≤ d) :
    stepList A (A + 1 + x) s = pos (upRange ((A : Int) + 1) s ((A : Int) + 1 + d)) := by
  -- every stop from the last member up to the written bound gives the same number of steps
  have hx : x / s = d / s :=
    Nat.le_antisymm (Nat.div_le_div_right h2) ((Nat.le_div_iff_mul_le hs).2 h1)
  unfold stepList pos
  rw [Nat.add_assoc, Nat.add_sub_cancel_left, Nat.add_assoc, Nat.add_sub_cancel_left, Nat.add_div_right x hs, hx,
    upRange_add, List.map_map]
  apply List.map_congr_left
  intro j _
  show A + j * s = ((A : Int) + 1 + (j : Int) * (s : Int) - 1).toNat
  rw [Int.add_right_comm, Int.add_sub_cancel]
  rfl

/-- `casadi::Slice::all` on bounds that are not counted from the end; a stop at or below the start gives
    the empty `casadi::range`. -/
theorem casadiSlice_nat (len st sp step : Nat) (hs : 0 < step) :
    casadiSlice len (some (st : Int)) (some (sp : Int)) step =
      if (sp : Int) ≤ len then some (stepList st sp step) else none := by
  unfold casadiSlice
  rw [if_neg (Nat.ne_of_gt hs)]
  have hst := Int.not_lt.2 (Int.natCast_nonneg st)
  simp only [if_neg hst, if_neg (Int.not_lt.2 (Int.natCast_nonneg sp)), Int.toNat_natCast]
  by_cases hl : (sp : Int) ≤ len
  · rw [if_pos hl, if_neg (not_or.2 ⟨Int.not_lt.2 hl, hst⟩)]
    split
    · next hle => rw [stepList_of_le hs (Int.ofNat_le.1 hle)]
    · rfl
  · rw [if_neg hl, if_pos (Or.inl (Int.not_le.1 hl))]

theorem casadiSlice_stop_beyond {len : Nat} {st : Option Int} {b : Int} {s : Nat} (hb : (len : Int) < b) :
    casadiSlice len st (some b) s = none := by
  unfold casadiSlice
  by_cases hs : s = 0
  · rw [if_pos hs]
  · rw [if_neg hs]
    dsimp only
    rw [if_neg (Int.not_lt.2 (Int.le_trans (Int.natCast_nonneg len) (Int.le_of_lt hb))), if_pos (Or.inl hb)]

theorem casadiSlice_omitted_bounds (len step : Nat) :
    casadiSlice len none none step = casadiSlice len (some 0) (some (len : Int)) step := by
  unfold casadiSlice
  simp only [if_neg (Int.not_lt.mpr (Int.natCast_nonneg len)), if_neg (Int.lt_irrefl 0)]

/-- CasADi's slice from `a - 1` to any stop between the last member of `a : s : b` and `b` is the Modelica
    range (the tree passes the last member when it checks slices, and `b` itself when it does not). -/
theorem casadiSlice_upRange (n : Nat) {a b sp : Int} {s : Nat} (hs : 0 < s) (ha : 1 ≤ a) (h0 : 0 ≤ sp)
    (hlo : lastOf a s b ≤ sp) (hhi : sp ≤ b) :
    casadiSlice n (some (a - 1)) (some sp) s = if sp ≤ n then some (pos (upRange a s b)) else none := by
  obtain ⟨A, hA⟩ := Int.eq_ofNat_of_zero_le (Int.sub_nonneg_of_le ha)
  obtain ⟨S, rfl⟩ := Int.eq_ofNat_of_zero_le h0
  rw [hA, casadiSlice_nat n A S s hs]
  congr 2
  by_cases hab : a ≤ b
  · obtain rfl : a = A + 1 := Int.sub_eq_iff_eq_add.1 hA
    obtain ⟨d, rfl⟩ := Int.le.dest hab
    rw [lastOf_add] at hlo
    obtain ⟨x, hx⟩ := Int.le.dest (Int.le_trans (Int.le_add_of_nonneg_right (Int.natCast_nonneg _)) hlo)
    rw [← hx] at hlo hhi
    obtain rfl : A + 1 + x = S := Int.ofNat.inj hx
    exact stepList_eq_pos A hs (Int.ofNat_le.1 (Int.le_of_add_le_add_left hlo))
      (Int.ofNat_le.1 (Int.le_of_add_le_add_left hhi))
  · have hSA : (S : Int) ≤ A := hA ▸ Int.le_sub_one_of_lt (Int.lt_of_le_of_lt hhi (Int.not_le.1 hab))
    rw [upRange_empty hs (Int.not_le.1 hab), stepList_of_le hs (Int.ofNat_le.1 hSA)]
    rfl

theorem casadiSlice_zero_zero (len s : Nat) (hs : 0 < s) : casadiSlice len (some 0) (some 0) s = some [] :=
  (casadiSlice_nat len 0 0 s hs).trans (by
    rw [if_pos (show ((0 : Nat) : Int) ≤ len from Int.natCast_nonneg len), stepList_of_le hs (Nat.le_refl 0)])

theorem casadiSlice_all (n : Nat) : casadiSlice n none none 1 = some (pos (upRange 1 1 n)) := by
  have h := casadiSlice_upRange n Nat.one_pos (Int.le_refl 1) (Int.natCast_nonneg n)
    (lastOf_le 1 1 n Nat.one_pos) (Int.le_refl _)
  rw [if_pos (Int.le_refl _)] at h
  rw [casadiSlice_omitted_bounds]
  exact h

theorem casadiPick_some {len : Nat} {ks : List Int} {ps : List Nat} (h : casadiPick len ks = some ps) :
    (∀ k ∈ ks, -(len : Int) ≤ k ∧ k < len) ∧
      ps = ks.map (fun (k : Int) => (if k < 0 then k + (len : Int) else k).toNat) := by
  induction ks generalizing ps with
  | nil =>
    cases h
    exact ⟨fun _ hk => (nomatch hk), rfl⟩
  | cons k ks ih =>
    unfold casadiPick at h
    split at h
    · cases h
    · next hk =>
      cases hr : casadiPick len ks with
      | none =>
        rw [hr] at h
        cases h
      | some qs =>
        rw [hr] at h
        cases h
        obtain ⟨hb, hq⟩ := ih hr
        refine ⟨fun k' hk' => ?_, ?_⟩
        · rcases List.mem_cons.1 hk' with rfl | hk'
          · exact ⟨Int.not_lt.1 fun hlt => hk (Or.inl hlt), Int.not_le.1 fun hle => hk (Or.inr hle)⟩
          · exact hb k' hk'
        · rw [hq]
          rfl

theorem casadiPick_high {len : Nat} {ks : List Int} (h : ∃ k ∈ ks, (len : Int) ≤ k) :
    casadiPick len ks = none := by
  obtain ⟨k, hk, hle⟩ := h
  exact Option.eq_none_iff_forall_ne_some.2 fun ps hp =>
    Int.not_lt.2 hle ((casadiPick_some hp).1 k hk).2

theorem casadiPick_pred {n : Nat} {idx : List Int} {ps : List Nat} (hlow : ∀ i ∈ idx, 1 ≤ i)
    (h : casadiPick n (idx.map (· - 1)) = some ps) : InRange n idx ∧ ps = pos idx := by
  obtain ⟨hb, hp⟩ := casadiPick_some h
  refine ⟨fun i hi => ⟨hlow i hi, Int.le_of_sub_one_lt (hb (i - 1) (List.mem_map_of_mem hi)).2⟩, ?_⟩
  rw [hp, List.map_map]
  apply List.map_congr_left
  intro i hi
  show (if i - 1 < 0 then i - 1 + (n : Int) else i - 1).toNat = _
  rw [if_neg (Int.not_lt.2 (Int.sub_nonneg_of_le (hlow i hi)))]

theorem sliceSel_checked {cfg : Cfg} (n len : Nat) (a b : Int) {s : Nat} (hc : cfg.sliceCheck = true)
    (hs : 0 < s) :
    sliceSel cfg n len a b s =
      if a ≤ b then
        if a < 1 ∨ lastOf a s b > n then none else casadiSlice len (some (a - 1)) (some (lastOf a s b)) s
      else casadiSlice len (some 0) (some 0) s := by
  unfold sliceSel
  rw [if_pos ⟨hc, hs⟩]
  rfl

theorem sliceSel_unchecked {cfg : Cfg} (n len : Nat) (a b : Int) (s : Nat) (hc : ¬ cfg.sliceCheck = true) :
    sliceSel cfg n len a b s = casadiSlice len (some (a - 1)) (some b) s := by
  unfold sliceSel
  rw [if_neg fun hh => hc hh.1]

theorem sliceSel_sound {cfg : Cfg} {n : Nat} {a b : Int} {s : Nat} {ps : List Nat} (hs : 0 < s)
    (hsafe : cfg.sliceCheck = true ∨ (1 ≤ a ∧ 0 ≤ b))
    (h : sliceSel cfg n n a b s = some ps) :
    InRange n (upRange a s b) ∧ ps = pos (upRange a s b) := by
  by_cases hc : cfg.sliceCheck = true
  · rw [sliceSel_checked n n a b hc hs] at h
    by_cases hab : a ≤ b
    · rw [if_pos hab] at h
      by_cases hbad : a < 1 ∨ lastOf a s b > n
      · rw [if_pos hbad] at h
        cases h
      · have ha : 1 ≤ a := Int.not_lt.1 fun hlt => hbad (Or.inl hlt)
        have hl : lastOf a s b ≤ n := Int.not_lt.1 fun hlt => hbad (Or.inr hlt)
        rw [if_neg hbad, casadiSlice_upRange n hs ha
          (Int.le_trans (Int.le_trans (by decide) ha) (le_lastOf a s b hab))
          (Int.le_refl _) (lastOf_le a s b hs), if_pos hl] at h
        exact ⟨inRange_upRange ha hl, (Option.some.inj h).symm⟩
    · rw [if_neg hab, casadiSlice_zero_zero n s hs] at h
      rw [upRange_empty hs (Int.not_le.1 hab)]
      exact ⟨fun _ hi => (nomatch hi), (Option.some.inj h).symm⟩
  · have hab : 1 ≤ a ∧ 0 ≤ b := hsafe.resolve_left hc
    rw [sliceSel_unchecked n n a b s hc,
      casadiSlice_upRange n hs hab.1 hab.2 (lastOf_le a s b hs) (Int.le_refl b)] at h
    by_cases hbn : b ≤ n
    · rw [if_pos hbn] at h
      exact ⟨inRange_upRange hab.1 (Int.le_trans (lastOf_le a s b hs) hbn),
        (Option.some.inj h).symm⟩
    · rw [if_neg hbn] at h
      cases h

theorem sliceSel_oob {cfg : Cfg} {n : Nat} {a b : Int} {s : Nat} (hs : 0 < s)
    (hsafe : cfg.sliceCheck = true ∨ (1 ≤ a ∧ 0 ≤ b))
    (h : ∃ i ∈ upRange a s b, i < 1 ∨ (n : Int) < i) : sliceSel cfg n n a b s = none :=
  Option.eq_none_iff_forall_ne_some.2 fun _ hsel =>
    not_inRange_of_bad h (sliceSel_sound hs hsafe hsel).1

/-- A non-empty slice whose last member lies beyond the dimension is rejected whatever the tree checks:
    by the range check, or else by CasADi since the stop lies beyond it too. -/
theorem sliceSel_last_beyond (cfg : Cfg) {n : Nat} {a b : Int} {s : Nat} (hs : 0 < s) (hab : a ≤ b)
    (h : (n : Int) < lastOf a s b) : sliceSel cfg n n a b s = none := by
  by_cases hc : cfg.sliceCheck = true
  · exact sliceSel_oob hs (Or.inl hc) ⟨_, last_mem_upRange a s b hs hab, Or.inr h⟩
  · rw [sliceSel_unchecked n n a b s hc]
    exact casadiSlice_stop_beyond (Int.lt_of_lt_of_le h (lastOf_le a s b hs))

theorem sliceSel_step_zero (cfg : Cfg) (n len : Nat) (a b : Int) : sliceSel cfg n len a b 0 = none := by
  unfold sliceSel
  rw [if_neg fun hh => Nat.lt_irrefl 0 hh.2]
  rfl

/-! An accepted `fixedSel` has evaluated its written integers: what it returns is the selection on the
    values they denote. -/

theorem fixedSel_idx_some {cfg : Cfg} {n len : Nat} {k : IntS} {ps : List Nat}
    (h : fixedSel cfg n len (.idx k) = some ps) :
    1 ≤ k.val ∧ casadiPick len [k.val - 1] = some ps := by
  rw [fixedSel] at h
  split at h
  · cases h
  · next v hv =>
    obtain rfl := IntS.eval_val hv
    split at h
    · cases h
    · next hb => exact ⟨Int.add_one_le_of_lt (Int.not_le.1 fun hle => hb (Or.inl hle)), h⟩

theorem fixedSel_range_some {cfg : Cfg} {n len : Nat} {lo hi : IntS} {ps : List Nat}
    (h : fixedSel cfg n len (.range lo hi) = some ps) : sliceSel cfg n len lo.val hi.val 1 = some ps := by
  rw [fixedSel] at h
  split at h
  · next a b ha hb =>
    rw [IntS.eval_val ha, IntS.eval_val hb]
    exact h
  · cases h

theorem fixedSel_range3_some {cfg : Cfg} {n len : Nat} {a : IntS} {b c : NatS} {ps : List Nat}
    (h : fixedSel cfg n len (.range3 a b c) = some ps) :
    ∃ bv cv : Nat, b.val = bv ∧ c.val = cv ∧
      (if cfg.stepOrder = true then sliceSel cfg n len a.val cv bv else sliceSel cfg n len a.val bv cv)
        = some ps := by
  rw [fixedSel] at h
  split at h
  · next av bv cv ha hb hc =>
    obtain rfl := IntS.eval_val ha
    exact ⟨bv, cv, NatS.eval_val hb, NatS.eval_val hc, h⟩
  · cases h

theorem fixedSel_sound {cfg : Cfg} {n : Nat} {s : FSub} {ps : List Nat} (hsafe : Safe cfg s)
    (h : fixedSel cfg n n s = some ps) :
    ∃ d, s.denote n = some d ∧ InRange n d ∧ ps = pos d := by
  cases s with
  | idx k =>
    obtain ⟨hk, hp⟩ := fixedSel_idx_some h
    exact ⟨[k.val], rfl, casadiPick_pred (fun i hi => List.mem_singleton.1 hi ▸ hk) hp⟩
  | range lo hi =>
    exact ⟨_, rfl, sliceSel_sound Nat.one_pos hsafe (fixedSel_range_some h)⟩
  | range3 a b c =>
    obtain ⟨hord, hsl⟩ := hsafe
    obtain ⟨bv, cv, hb, hc, h⟩ := fixedSel_range3_some h
    rw [if_pos hord] at h
    rcases Nat.eq_zero_or_pos bv with rfl | hpos
    · rw [sliceSel_step_zero] at h
      cases h
    · rw [hc] at hsl
      refine ⟨upRange a.val bv cv, ?_, sliceSel_sound hpos hsl h⟩
      show mRange a.val b.val c.val = _
      rw [hb, hc, mRange_pos hpos]
  | all =>
    exact ⟨_, rfl, inRange_upRange (Int.le_refl 1) (lastOf_le 1 1 n Nat.one_pos),
      Option.some.inj (h.symm.trans (casadiSlice_all n))⟩

theorem fixedSel_oob {cfg : Cfg} {n : Nat} {s : FSub} (hsafe : Safe cfg s) (h : Bad n s) :
    fixedSel cfg n n s = none := by
  refine Option.eq_none_iff_forall_ne_some.2 fun ps hsel => ?_
  obtain ⟨d, hd, hr, _⟩ := fixedSel_sound hsafe hsel
  rcases h with h | ⟨d', hd', hbad⟩
  · rw [hd] at h
    cases h
  · rw [hd] at hd'
    cases hd'
    exact not_inRange_of_bad hbad hr

theorem loopIdxSel_sound {cfg : Cfg} {n : Nat} {vals : List Int} {mul off : Int} {ps : List Nat}
    (hsafe : LoopSafe cfg vals mul off) (h : loopIdxSel cfg n n vals mul off = some ps) :
    InRange n (vals.map (fun v => mul * v + off)) ∧ ps = pos (vals.map (fun v => mul * v + off)) := by
  unfold loopIdxSel at h
  dsimp only at h
  split at h
  · cases h
  · next hchk =>
    -- CasADi bounds every index from above; from below the tree's check does, or else `LoopSafe`
    refine casadiPick_pred (fun i hi => ?_) h
    rcases hsafe with hl | hl
    · exact Int.not_lt.1 fun hlt => hchk ⟨hl, List.any_eq_true.2 ⟨i, hi, decide_eq_true (Or.inl hlt)⟩⟩
    · obtain ⟨v, hv, rfl⟩ := List.mem_map.1 hi
      exact hl v hv

theorem loopIdxSel_oob {cfg : Cfg} {n : Nat} {vals : List Int} {mul off : Int}
    (hsafe : LoopSafe cfg vals mul off)
    (h : ∃ v ∈ vals, mul * v + off < 1 ∨ (n : Int) < mul * v + off) :
    loopIdxSel cfg n n vals mul off = none := by
  obtain ⟨v, hv, hbad⟩ := h
  exact Option.eq_none_iff_forall_ne_some.2 fun _ hsel =>
    absurd (loopIdxSel_sound hsafe hsel).1 (not_inRange_of_bad ⟨_, List.mem_map_of_mem hv, hbad⟩)

theorem loopValues_sound {cfg : Cfg} (hord : cfg.stepOrder = true) {r : LoopRange} {vals : List Int}
    (h : loopValues cfg r = some vals) : r.denote = some vals := by
  cases r with
  | two a b =>
    rw [loopValues] at h
    split at h
    · next k e hk he =>
      rw [← h, LoopRange.denote, IntS.litVal_val hk, IntS.eval_val he, arange_eq_upRange Nat.one_pos]
    · cases h
  | three a b c =>
    rw [loopValues, if_pos hord] at h
    split at h
    · next k st e hk hst he =>
      split at h
      · cases h
      · next hz =>
        have hpos := Nat.pos_of_ne_zero hz
        rw [← h, LoopRange.denote, IntS.litVal_val hk, NatS.litVal_val hst, NatS.eval_val he, mRange_pos hpos,
          arange_eq_upRange hpos]
    · cases h

theorem padLevels_none (pre post : List Level) (l : Level) (h : padLevel l = none) :
    padLevels (pre ++ l :: post) = none := by
  induction pre with
  | nil => rw [List.nil_append, padLevels, h]
  | cons p ps ih =>
    rw [List.cons_append, padLevels, ih]
    cases padLevel p with
    | none => rfl
    | some _ => rfl

theorem outcome_1d_sound {cfg : Cfg} {n : Nat} {s : FSub} {rows : List (List Pos)} (hsafe : Safe cfg s)
    (h : outcomeEq cfg (.d1 n) (.f1 s) = some rows) :
    ∃ d, s.denote n = some d ∧ InRange n d ∧ rows = norm ((pos d).map (fun p => [(p, 0)])) := by
  rw [outcomeEq] at h
  obtain ⟨ps, hs, hrows⟩ := Option.map_eq_some_iff.1 h
  obtain ⟨d, hd, hr, rfl⟩ := fixedSel_sound hsafe hs
  exact ⟨d, hd, hr, hrows.symm⟩

theorem outcome_1d_error {cfg : Cfg} {n : Nat} {s : FSub} (hsafe : Safe cfg s) (h : Bad n s) :
    outcomeEq cfg (.d1 n) (.f1 s) = none := by
  rw [outcomeEq, fixedSel_oob hsafe h]
  rfl

theorem outcome_2d_sound {cfg : Cfg} {n m : Nat} {a b : FSub} {rows : List (List Pos)} (ha : Safe cfg a)
    (hb : Safe cfg b) (h : outcomeEq cfg (.d2 n m) (.ff a b) = some rows) :
    ∃ da db, a.denote n = some da ∧ b.denote m = some db ∧ InRange n da ∧ InRange m db ∧
      rows = norm (mat2 (pos da) (pos db)) := by
  rw [outcomeEq] at h
  split at h
  · next rs cs hrs hcs =>
    obtain ⟨da, hda, hra, rfl⟩ := fixedSel_sound ha hrs
    obtain ⟨db, hdb, hrb, rfl⟩ := fixedSel_sound hb hcs
    exact ⟨da, db, hda, hdb, hra, hrb, (Option.some.inj h).symm⟩
  · cases h

theorem outcome_2d_error {cfg : Cfg} {n m : Nat} {a b : FSub} (ha : Safe cfg a) (hb : Safe cfg b)
    (h : Bad n a ∨ Bad m b) : outcomeEq cfg (.d2 n m) (.ff a b) = none := by
  rw [outcomeEq]
  rcases h with h | h
  · rw [fixedSel_oob ha h]
  · rw [fixedSel_oob hb h]
    cases fixedSel cfg n n a with
    | none => rfl
    | some rs => rfl

theorem outcome_loop {cfg : Cfg} (hord : cfg.stepOrder = true) {dm : Dims} {sb : Subs} {r : LoopRange}
    {rows : List (List Pos)} (h : outcome cfg ⟨dm, sb, some r⟩ = some rows) :
    ∃ vals, r.denote = some vals ∧ outcomeLoop cfg vals dm sb = some rows := by
  unfold outcome at h
  dsimp only at h
  split at h
  · cases h
  · next vals hv => exact ⟨vals, loopValues_sound hord hv, h⟩

theorem outcome_none {cfg : Cfg} {dm : Dims} {sb : Subs} {l : Option LoopRange}
    (h1 : outcomeEq cfg dm sb = none) (h2 : ∀ vals, outcomeLoop cfg vals dm sb = none) :
    outcome cfg ⟨dm, sb, l⟩ = none := by
  cases l with
  | none => exact h1
  | some r =>
    unfold outcome
    dsimp only
    cases loopValues cfg r with
    | none => rfl
    | some vals => exact h2 vals

theorem outcome_loop_1d_sound {cfg : Cfg} (hord : cfg.stepOrder = true) {n : Nat} {r : LoopRange}
    {mul off : Int} (hm : mul ≠ 0) {rows : List (List Pos)}
    (hl : ∀ vals, r.denote = some vals → LoopSafe cfg vals mul off)
    (h : outcome cfg ⟨.d1 n, .l1 mul off, some r⟩ = some rows) :
    ∃ vals, r.denote = some vals ∧ InRange n (vals.map (fun v => mul * v + off)) ∧
      rows = norm ((pos (vals.map (fun v => mul * v + off))).map (fun p => [(p, 0)])) := by
  obtain ⟨vals, hd, h⟩ := outcome_loop hord h
  rw [outcomeLoop, if_neg hm] at h
  obtain ⟨ps, hs, hrows⟩ := Option.map_eq_some_iff.1 h
  obtain ⟨hr, rfl⟩ := loopIdxSel_sound (hl vals hd) hs
  exact ⟨vals, hd, hr, hrows.symm⟩

theorem outcome_loop_1d_error {cfg : Cfg} (hord : cfg.stepOrder = true) {n : Nat} {r : LoopRange}
    {mul off : Int} (hm : mul ≠ 0) {vals : List Int} (hd : r.denote = some vals)
    (hl : LoopSafe cfg vals mul off) (h : ∃ v ∈ vals, mul * v + off < 1 ∨ (n : Int) < mul * v + off) :
    outcome cfg ⟨.d1 n, .l1 mul off, some r⟩ = none := by
  refine Option.eq_none_iff_forall_ne_some.2 fun rows hsel => ?_
  obtain ⟨vals', hd', hsel⟩ := outcome_loop hord hsel
  cases hd.symm.trans hd'
  rw [outcomeLoop, if_neg hm, loopIdxSel_oob hl h] at hsel
  cases hsel

/-- The shape shared by `x[mul*i+off, s]` and `x[s, mul*i+off]` in a loop: the fixed subscript is selected
    first (nothing selected discards the equation), then the loop-dependent one; `G` lays out the rows. -/
theorem crossSel_sound {cfg : Cfg} {k l : Nat} {s : FSub} {vals : List Int} {mul off : Int}
    (G : List Nat → List Nat → List (List Pos)) {rows : List (List Pos)} (hs : Safe cfg s)
    (hl : LoopSafe cfg vals mul off)
    (h : (match fixedSel cfg k k s with
          | none => none
          | some [] => some []
          | some fs => (loopIdxSel cfg l l vals mul off).map (G fs)) = some rows) :
    ∃ d, s.denote k = some d ∧ InRange k d ∧
      ((d = [] ∧ rows = []) ∨
       (InRange l (vals.map (fun v => mul * v + off)) ∧
        rows = G (pos d) (pos (vals.map (fun v => mul * v + off))))) := by
  split at h
  · cases h
  · next hfs =>
    obtain ⟨d, hd, hr, hp⟩ := fixedSel_sound hs hfs
    exact ⟨d, hd, hr, Or.inl ⟨List.map_eq_nil_iff.1 hp.symm, (Option.some.inj h).symm⟩⟩
  · next fs _ hfs =>
    obtain ⟨d, hd, hr, rfl⟩ := fixedSel_sound hs hfs
    obtain ⟨ps, hps, hrows⟩ := Option.map_eq_some_iff.1 h
    obtain ⟨hri, rfl⟩ := loopIdxSel_sound hl hps
    exact ⟨d, hd, hr, Or.inr ⟨hri, hrows.symm⟩⟩

theorem outcome_loop_row_sound {cfg : Cfg} (hord : cfg.stepOrder = true) {n m : Nat} {r : LoopRange}
    {mul off : Int} (hm : mul ≠ 0) {b : FSub} {rows : List (List Pos)} (hb : Safe cfg b)
    (hl : ∀ vals, r.denote = some vals → LoopSafe cfg vals mul off)
    (h : outcome cfg ⟨.d2 n m, .lf mul off b, some r⟩ = some rows) :
    ∃ vals db, r.denote = some vals ∧ b.denote m = some db ∧ InRange m db ∧
      ((db = [] ∧ rows = []) ∨
       (InRange n (vals.map (fun v => mul * v + off)) ∧
        rows = norm ((pos (vals.map (fun v => mul * v + off))).map (fun r => (pos db).map (fun c => (r, c)))))) := by
  obtain ⟨vals, hd, h⟩ := outcome_loop hord h
  rw [outcomeLoop, if_neg hm] at h
  obtain ⟨db, hc⟩ := crossSel_sound (fun cs rs => norm (rs.map (fun r => cs.map (fun c => (r, c))))) hb (hl vals hd) h
  exact ⟨vals, db, hd, hc⟩

theorem outcome_loop_col_sound {cfg : Cfg} (hord : cfg.stepOrder = true) {n m : Nat} {r : LoopRange}
    {a : FSub} {mul off : Int} (hm : mul ≠ 0) {rows : List (List Pos)} (ha : Safe cfg a)
    (hl : ∀ vals, r.denote = some vals → LoopSafe cfg vals mul off)
    (h : outcome cfg ⟨.d2 n m, .fl a mul off, some r⟩ = some rows) :
    ∃ vals da, r.denote = some vals ∧ a.denote n = some da ∧ InRange n da ∧
      ((da = [] ∧ rows = []) ∨
       (InRange m (vals.map (fun v => mul * v + off)) ∧
        rows = norm ((pos (vals.map (fun v => mul * v + off))).map (fun c => (pos da).map (fun r => (r, c)))))) := by
  obtain ⟨vals, hd, h⟩ := outcome_loop hord h
  rw [outcomeLoop, if_neg hm] at h
  obtain ⟨da, hc⟩ := crossSel_sound (fun rs cs => norm (cs.map (fun c => rs.map (fun r => (r, c))))) ha (hl vals hd) h
  exact ⟨vals, da, hd, hc⟩

end PymocaVerif.Index
