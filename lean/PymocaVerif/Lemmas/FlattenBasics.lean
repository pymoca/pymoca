import PymocaVerif.Model.Flatten
/-! The error-carrying list helpers of the model (`mapE`, `firstBad`, `dupName`) in terms of the
    list library. -/
namespace PymocaVerif.Flatten

variable {α β γ ε : Type} {f : α → Except ε β} {l : List α} {r : List β}

theorem mapE_cons_ok {a : α} {as : List α} :
    mapE f (a :: as) = .ok r ↔ ∃ b bs, f a = .ok b ∧ mapE f as = .ok bs ∧ r = b :: bs := by
  simp only [mapE]
  cases f a with
  | error e => simp
  | ok b =>
    cases mapE f as with
    | error e => simp
    | ok bs => simp [eq_comm]

theorem mapE_ok_iff : mapE f l = .ok r ↔ l.map f = r.map .ok := by
  induction l generalizing r with
  | nil => cases r <;> simp [mapE]
  | cons a as ih =>
    rw [mapE_cons_ok]
    cases r with
    | nil => simp
    | cons b bs => simp [ih]

theorem mapE_mem_right (h : mapE f l = .ok r) {b : β} (hb : b ∈ r) : ∃ a ∈ l, f a = .ok b := by
  have : Except.ok b ∈ l.map f := mapE_ok_iff.mp h ▸ List.mem_map.mpr ⟨b, hb, rfl⟩
  exact List.mem_map.mp this

theorem mapE_mem_left (h : mapE f l = .ok r) {a : α} (ha : a ∈ l) : ∃ b ∈ r, f a = .ok b := by
  have : f a ∈ r.map .ok := mapE_ok_iff.mp h ▸ List.mem_map.mpr ⟨a, ha, rfl⟩
  obtain ⟨b, hb, hab⟩ := List.mem_map.mp this
  exact ⟨b, hb, hab.symm⟩

theorem mapE_mono {g : α → Except ε β}
    (hfg : ∀ a ∈ l, ∀ b, f a = .ok b → g a = .ok b) (h : mapE f l = .ok r) : mapE g l = .ok r := by
  rw [mapE_ok_iff, ← mapE_ok_iff.mp h]
  refine List.map_congr_left fun a ha => ?_
  obtain ⟨b, _, hb⟩ := mapE_mem_left h ha
  rw [hb, hfg a ha b hb]

theorem mapE_pairwise {R : α → α → Prop} {S : β → β → Prop}
    (h : mapE f l = .ok r) (hl : l.Pairwise R)
    (hRS : ∀ a a' b b', R a a' → f a = .ok b → f a' = .ok b' → S b b') : r.Pairwise S := by
  induction l generalizing r with
  | nil =>
    cases h
    exact .nil
  | cons a as ih =>
    obtain ⟨b, bs, hb, hbs, rfl⟩ := mapE_cons_ok.mp h
    obtain ⟨ha, has⟩ := List.pairwise_cons.mp hl
    refine List.pairwise_cons.mpr ⟨fun b' hb' => ?_, ih hbs has⟩
    obtain ⟨a', ha', hfa'⟩ := mapE_mem_right hbs hb'
    exact hRS a a' b b' (ha a' ha') hb hfa'

theorem mapE_map (g : β → Except ε γ) (h : α → β) (l : List α) :
    mapE g (l.map h) = mapE (fun a => g (h a)) l := by
  induction l with
  | nil => rfl
  | cons a as ih => simp [mapE, ih]

theorem mapE_congr {g : α → Except ε β} (h : ∀ a ∈ l, f a = g a) : mapE f l = mapE g l := by
  induction l with
  | nil => rfl
  | cons a as ih =>
    simp only [mapE]
    rw [h a List.mem_cons_self, ih fun x hx => h x (List.mem_cons_of_mem _ hx)]

@[simp] theorem firstBad_eq_find? (p : α → Bool) (l : List α) : firstBad p l = l.find? p := by
  induction l with
  | nil => rfl
  | cons a as ih =>
    simp only [firstBad, List.find?_cons, ih]
    cases p a <;> rfl

theorem firstBad_eq_none {p : α → Bool} {l : List α} :
    firstBad (fun a => !p a) l = none ↔ ∀ a ∈ l, p a = true := by
  simp

theorem exists_firstBad {p : α → Bool} {l : List α} {a : α} (ha : a ∈ l) (hp : p a = false) :
    ∃ b, firstBad (fun a => !p a) l = some b := by
  rw [firstBad_eq_find?]
  exact Option.isSome_iff_exists.mp (List.find?_isSome.mpr ⟨a, ha, by rw [hp]; rfl⟩)

theorem dupName_eq_none {l : List Name} : dupName l = none ↔ l.Nodup := by
  induction l with
  | nil => exact ⟨fun _ => .nil, fun _ => rfl⟩
  | cons x xs ih =>
    rw [dupName, List.nodup_cons, ← ih]
    by_cases h : x ∈ xs <;> simp [h]

end PymocaVerif.Flatten
