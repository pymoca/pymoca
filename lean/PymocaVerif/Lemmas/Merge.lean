import PymocaVerif.Model.Merge
/-! Lemmas for C27 (`Model/Merge.lean`).  The idea: `get · path` turns `extend` into `omerge`.  First the
    dictionary level (`find` after `iom` and `extendBy`), then paths (`get_extend`), then a list of
    files, where the payload at a path is the fold `combine` of the per-file payloads; what is left
    is to say when that fold depends only on which payloads occur. -/
namespace PymocaVerif.Merge

variable {α : Type}

theorem find_isSome_iff (n : String) (F : Forest α) : (find n F).isSome ↔ n ∈ names F := by
  induction F with
  | nil => simp [find, names]
  | cons m p ks r _ ihr =>
    by_cases e : m = n
    · simp [find, names, e]
    · have : ¬ n = m := fun h => e h.symm
      simp [find, names, e, ihr, this]

theorem find_none_of_not_mem {n : String} {F : Forest α} (h : n ∉ names F) : find n F = none :=
  Option.not_isSome_iff_eq_none.mp (mt (find_isSome_iff n F).mp h)

theorem mem_names_of_find (n : String) (F : Forest α) (x : α × Forest α) (h : find n F = some x) :
    n ∈ names F :=
  (find_isSome_iff n F).mp (by rw [h]; rfl)

theorem wf_kids_of_find {n : String} {F : Forest α} {p : α} {ks : Forest α} (hw : Wf F)
    (h : find n F = some (p, ks)) : Wf ks := by
  induction F with
  | nil => cases h
  | cons m q js r _ ihr =>
    obtain ⟨_, hjs, hr⟩ := hw
    by_cases e : m = n
    · simp only [find, e, if_true, Option.some.injEq, Prod.mk.injEq] at h
      rw [← h.2]
      exact hjs
    · simp only [find, e, if_false] at h
      exact ihr hr h

theorem get_nil (path : List String) : get (.nil : Forest α) path = none := by
  cases path <;> simp [get, find]

theorem get_cons_self {n : String} {p : α} {ks r : Forest α} {t : List String} (ht : t ≠ []) :
    get (.cons n p ks r) (n :: t) = get ks t := by
  cases t with
  | nil => exact absurd rfl ht
  | cons a t => simp [get, find]

theorem fileToTree_cons (ph : α) (n : String) (w : List String) (cs : Forest α) :
    fileToTree ph (n :: w) cs = .cons n ph (fileToTree ph w cs) .nil := rfl

theorem wf_fileToTree {ph : α} {w : List String} {cs : Forest α} : Wf (fileToTree ph w cs) ↔ Wf cs := by
  induction w with
  | nil => rfl
  | cons n w ih =>
    rw [fileToTree_cons, Wf]
    exact ⟨fun h => ih.mp h.2.1, fun h => ⟨List.not_mem_nil, ih.mpr h, trivial⟩⟩

/-- What `classes[x]` is after one iteration of the `_extend` loop. -/
theorem find_iom (mp : α → α → α) (f : Forest α → Forest α) (n : String) (p : α) (ks F : Forest α)
    (x : String) :
    find x (iom mp f n p ks F) =
      if n = x then
        (match find n F with
         | some (q, js) => some (mp q p, f js)
         | none => some (p, ks))
      else find x F := by
  induction F with
  | nil => rfl
  | cons m q js r _ ihr =>
    by_cases e : m = n
    · subst e
      by_cases ex : m = x
      · simp [iom, find, ex]
      · simp [iom, find, ex]
    · by_cases emx : m = x
      · subst emx
        have : ¬ n = m := fun h => e h.symm
        simp [iom, find, e, this]
      · simp [iom, find, e, emx, ihr]

theorem mem_names_iom {mp : α → α → α} {f : Forest α → Forest α} {n : String} {p : α} {ks F : Forest α}
    {x : String} : x ∈ names (iom mp f n p ks F) ↔ x ∈ names F ∨ x = n := by
  induction F with
  | nil => simp [iom, names]
  | cons m q js r _ ihr =>
    simp only [iom]
    split
    · rename_i e
      simp only [names, List.mem_cons, ← e]
      exact ⟨.inl, fun h => h.elim id .inl⟩
    · simp [names, ihr, or_assoc]

/-- `omerge` for dictionary entries (payload and nested classes). -/
def fmerge (mp : α → α → α) (g : Forest α → Forest α → Forest α) :
    Option (α × Forest α) → Option (α × Forest α) → Option (α × Forest α)
  | none, b => b
  | a, none => a
  | some (q, js), some (p, ks) => some (mp q p, g ks js)

@[simp] theorem fmerge_none_right (mp : α → α → α) (g : Forest α → Forest α → Forest α)
    (a : Option (α × Forest α)) : fmerge mp g a none = a := by
  cases a <;> rfl

/-- `classes[x]` after `self._extend(other)`. -/
theorem find_extendBy {mp : α → α → α} {other : Forest α} (hw : Wf other) (self : Forest α) (x : String) :
    find x (extendBy mp other self) = fmerge mp (extendBy mp) (find x self) (find x other) := by
  induction other generalizing self with
  | nil => simp [extendBy, find]
  | cons n p ks rest _ ihr =>
    obtain ⟨hn, _, hrest⟩ := hw
    simp only [extendBy]
    rw [ihr hrest, find_iom]
    by_cases e : n = x
    · subst e
      have hr : find n rest = none := find_none_of_not_mem hn
      simp only [if_true, hr, find]
      cases h : find n self with
      | none => simp [fmerge]
      | some v =>
        obtain ⟨q, js⟩ := v
        simp [fmerge]
    · simp [e, find]

theorem names_extendBy_self (mp : α → α → α) (other self : Forest α) (x : String)
    (h : x ∈ names self) : x ∈ names (extendBy mp other self) := by
  induction other generalizing self with
  | nil => simpa [extendBy] using h
  | cons n p ks rest _ ihr =>
    simp only [extendBy]
    exact ihr _ (mem_names_iom.mpr (.inl h))

theorem wf_iom {mp : α → α → α} {f : Forest α → Forest α} (hf : ∀ js, Wf js → Wf (f js)) {n : String} {p : α}
    {ks : Forest α} (hks : Wf ks) {F : Forest α} (hF : Wf F) : Wf (iom mp f n p ks F) := by
  induction F with
  | nil => exact ⟨by simp [names], hks, trivial⟩
  | cons m q js r _ ihr =>
    obtain ⟨hm, hjs, hr⟩ := hF
    rw [iom]
    split
    · exact ⟨hm, hf js hjs, hr⟩
    · exact ⟨fun h => (mem_names_iom.mp h).elim hm ‹_›, hjs, ihr hr⟩

@[simp] theorem omerge_none_left (mp : α → α → α) (b : Option α) : omerge mp none b = b := rfl

@[simp] theorem omerge_none_right (mp : α → α → α) (a : Option α) : omerge mp a none = a := by
  cases a <;> rfl

@[simp] theorem omerge_some_some (mp : α → α → α) (a b : α) : omerge mp (some a) (some b) = some (mp a b) := rfl

theorem get_extend {mp : α → α → α} {self other : Forest α} (hw : Wf other) (path : List String) :
    get (extend mp self other) path = omerge mp (get self path) (get other path) := by
  unfold extend
  induction path generalizing other self with
  | nil => simp [get, omerge]
  | cons n p ih =>
    simp only [get]
    rw [find_extendBy hw]
    cases ho : find n other with
    | none => rw [fmerge_none_right, omerge_none_right]
    | some v =>
      cases hs : find n self with
      | none => rfl
      | some u =>
        cases p with
        | nil => rfl
        | cons m p' => exact ih (wf_kids_of_find hw ho)

theorem extendBy_cons_of_not_mem {mp : α → α → α} {other : Forest α} {n : String} {p : α} {ks acc : Forest α}
    (h : n ∉ names other) : extendBy mp other (.cons n p ks acc) = .cons n p ks (extendBy mp other acc) := by
  induction other generalizing acc with
  | nil => rfl
  | cons m q js rest _ ihr =>
    simp only [names, List.mem_cons, not_or] at h
    simp only [extendBy, iom, h.1, if_false]
    exact ihr h.2

/-- Why starting from the first file's tree (`_compile_model`) and from an empty `Tree` (`parse_all`)
    come to the same. -/
theorem extend_nil {mp : α → α → α} {f : Forest α} (hw : Wf f) : extend mp .nil f = f := by
  unfold extend
  induction f with
  | nil => rfl
  | cons n p ks rest _ ihr =>
    obtain ⟨hn, _, hrest⟩ := hw
    simp only [extendBy, iom]
    rw [extendBy_cons_of_not_mem hn, ihr hrest]

/-- Fold of the payload combination over the per-file payloads at one path. -/
def combine (mp : α → α → α) (l : List (Option α)) : Option α := l.foldl (omerge mp) none

theorem get_foldl_extend {mp : α → α → α} {path : List String} {fs : List (Forest α)}
    (hw : ∀ f ∈ fs, Wf f) {acc : Forest α} :
    get (fs.foldl (extend mp) acc) path
      = (fs.map (fun f => get f path)).foldl (omerge mp) (get acc path) := by
  induction fs generalizing acc with
  | nil => rfl
  | cons f fs ih =>
    simp only [List.foldl_cons, List.map_cons]
    rw [ih fun g hg => hw g (List.mem_cons_of_mem _ hg), get_extend (hw f List.mem_cons_self)]

theorem get_mergeAll {mp : α → α → α} {path : List String} {fs : List (Forest α)}
    (hw : ∀ f ∈ fs, Wf f) :
    get (mergeAll mp fs) path = combine mp (fs.map (fun f => get f path)) := by
  cases fs with
  | nil => simp [mergeAll, combine, get_nil]
  | cons f fs =>
    simp only [mergeAll, combine, List.map_cons, List.foldl_cons]
    rw [get_foldl_extend fun g hg => hw g (List.mem_cons_of_mem _ hg)]
    rfl

theorem get_mergeAllFromEmpty (mp : α → α → α) (path : List String) (fs : List (Forest α))
    (hw : ∀ f ∈ fs, Wf f) :
    get (mergeAllFromEmpty mp fs) path = combine mp (fs.map (fun f => get f path)) := by
  unfold mergeAllFromEmpty combine
  rw [get_foldl_extend hw, get_nil]

def Selective (mp : α → α → α) : Prop := ∀ a b, mp a b = a ∨ mp a b = b

theorem keepFirst_selective : Selective (keepFirst : α → α → α) := fun _ _ => Or.inl rfl

theorem fill_selective [DecidableEq α] (ph : α) : Selective (fill ph) := by
  intro a b
  unfold fill
  split <;> simp

theorem omerge_eq_none {mp : α → α → α} {a x : Option α} : omerge mp a x = none ↔ a = none ∧ x = none := by
  cases a <;> cases x <;> simp

theorem omerge_mem {mp : α → α → α} (hs : Selective mp) {a x : Option α} {v : α}
    (h : omerge mp a x = some v) : a = some v ∨ x = some v := by
  cases a with
  | none => exact .inr h
  | some a' =>
    cases x with
    | none => exact .inl h
    | some b =>
      rw [omerge_some_some, Option.some.injEq] at h
      rcases hs a' b with e | e
      · exact .inl (by rw [← h, e])
      · exact .inr (by rw [← h, e])

theorem foldl_omerge_none {mp : α → α → α} {l : List (Option α)} {a : Option α} :
    l.foldl (omerge mp) a = none ↔ a = none ∧ ∀ x ∈ l, x = none := by
  induction l generalizing a with
  | nil => simp
  | cons x l ih => simp only [List.foldl_cons, ih, omerge_eq_none, List.mem_cons, forall_eq_or_imp, and_assoc]

theorem foldl_omerge_mem {mp : α → α → α} (hs : Selective mp) {l : List (Option α)} {a : Option α}
    {v : α} (h : l.foldl (omerge mp) a = some v) : a = some v ∨ some v ∈ l := by
  induction l generalizing a with
  | nil => exact .inl h
  | cons x l ih =>
    rcases ih h with h1 | h1
    · rcases omerge_mem hs h1 with h2 | h2
      · exact .inl h2
      · exact .inr (h2 ▸ List.mem_cons_self)
    · exact .inr (List.mem_cons_of_mem _ h1)

theorem foldl_omerge_keepFirst (l : List (Option α)) (a : Option α) :
    l.foldl (omerge keepFirst) a = a.or (l.findSome? id) := by
  induction l generalizing a with
  | nil => cases a <;> rfl
  | cons x l ih =>
    rw [List.foldl_cons, ih]
    cases a <;> cases x <;> simp [keepFirst]

/-- The combination of the code before 07f5409 (`keepFirst`): the result is the payload of the
    first file that has the path. -/
theorem combine_keepFirst (l : List (Option α)) : combine keepFirst l = l.findSome? id := by
  rw [combine, foldl_omerge_keepFirst]
  rfl

theorem omerge_fill_ph [DecidableEq α] {ph : α} {a x : Option α}
    (h : omerge (fill ph) a x = none ∨ omerge (fill ph) a x = some ph) :
    (a = none ∨ a = some ph) ∧ (x = none ∨ x = some ph) := by
  cases a with
  | none => exact ⟨.inl rfl, h⟩
  | some a' =>
    cases x with
    | none => exact ⟨h, .inl rfl⟩
    | some b =>
      rw [omerge_some_some, Option.some.injEq] at h
      unfold fill at h
      split at h
      · exact ⟨.inr (by simp [*]), h.imp nofun fun e => by rw [e]⟩
      · exact absurd (h.resolve_left nofun) ‹_›

theorem foldl_fill_ph [DecidableEq α] {ph : α} {l : List (Option α)} {a : Option α}
    (h : l.foldl (omerge (fill ph)) a = some ph) :
    (a = none ∨ a = some ph) ∧ ∀ x ∈ l, x = none ∨ x = some ph := by
  induction l generalizing a with
  | nil => exact ⟨.inr h, fun _ hx => nomatch hx⟩
  | cons x l ih =>
    obtain ⟨h1, h2⟩ := ih h
    obtain ⟨ha, hx⟩ := omerge_fill_ph h1
    exact ⟨ha, List.forall_mem_cons.mpr ⟨hx, h2⟩⟩

/-- Payloads at one path are *defined at most once*: all non-placeholder payloads agree. -/
def DefinedOnce (ph : α) (l : List (Option α)) : Prop :=
  ∀ v w, some v ∈ l → some w ∈ l → v ≠ ph → w ≠ ph → v = w

theorem combine_eq_none {mp : α → α → α} {l : List (Option α)} : combine mp l = none ↔ ∀ x ∈ l, x = none := by
  rw [combine, foldl_omerge_none]
  exact and_iff_right rfl

theorem mem_of_combine {mp : α → α → α} (hs : Selective mp) {l : List (Option α)} {v : α}
    (h : combine mp l = some v) : some v ∈ l :=
  (foldl_omerge_mem hs h).resolve_left nofun

/-- Under `fill` the combined payload is determined by the *set* of per-file payloads. -/
theorem combine_fill_eq_some [DecidableEq α] {ph : α} {l : List (Option α)} (hd : DefinedOnce ph l) (w : α) :
    combine (fill ph) l = some w ↔ some w ∈ l ∧ (w = ph → ∀ v, some v ∈ l → v = ph) := by
  have allph : combine (fill ph) l = some ph → ∀ v, some v ∈ l → v = ph := fun h v hv =>
    ((foldl_fill_ph h).2 _ hv).elim nofun fun e => Option.some.inj e
  constructor
  · intro h
    exact ⟨mem_of_combine (fill_selective ph) h, fun e => allph (e ▸ h)⟩
  · rintro ⟨hw, hph⟩
    cases hr : combine (fill ph) l with
    | none => exact nomatch combine_eq_none.mp hr _ hw
    | some u =>
      have hu := mem_of_combine (fill_selective ph) hr
      by_cases eu : u = ph
      · rw [eu, allph (eu ▸ hr) w hw]
      · by_cases ew : w = ph
        · exact absurd (hph ew u hu) eu
        · rw [hd u w hu hw eu ew]

theorem combine_fill_congr [DecidableEq α] {ph : α} {l l' : List (Option α)}
    (hm : ∀ x, x ∈ l ↔ x ∈ l') (hd : DefinedOnce ph l) :
    combine (fill ph) l = combine (fill ph) l' := by
  have hd' : DefinedOnce ph l' := fun v w hv hw => hd v w ((hm _).mpr hv) ((hm _).mpr hw)
  refine Option.ext fun w => ?_
  rw [combine_fill_eq_some hd, combine_fill_eq_some hd']
  simp only [hm]

/-- For `keepFirst` no hypothesis weaker than full agreement, placeholders included, will do
    (finding C27-F1). -/
theorem combine_eq_some_of_agree {mp : α → α → α} (hs : Selective mp) {l : List (Option α)}
    (ha : ∀ v w, some v ∈ l → some w ∈ l → v = w) (w : α) : combine mp l = some w ↔ some w ∈ l := by
  refine ⟨mem_of_combine hs, fun hw => ?_⟩
  cases hr : combine mp l with
  | none => exact nomatch combine_eq_none.mp hr _ hw
  | some u => rw [ha u w (mem_of_combine hs hr) hw]

theorem combine_congr_of_selective {mp : α → α → α} (hs : Selective mp) {l l' : List (Option α)}
    (hm : ∀ x, x ∈ l ↔ x ∈ l') (ha : ∀ v w, some v ∈ l → some w ∈ l → v = w) :
    combine mp l = combine mp l' := by
  have ha' : ∀ v w, some v ∈ l' → some w ∈ l' → v = w := fun v w hv hw => ha v w ((hm _).mpr hv) ((hm _).mpr hw)
  refine Option.ext fun w => ?_
  rw [combine_eq_some_of_agree hs ha, combine_eq_some_of_agree hs ha', hm]

theorem equiv_mergeAll_of_perm {mp : α → α → α} {fs fs' : List (Forest α)} (hp : fs.Perm fs')
    (hw : ∀ f ∈ fs, Wf f)
    (hc : ∀ path l', (∀ x, x ∈ fs.map (fun f => get f path) ↔ x ∈ l') →
      combine mp (fs.map fun f => get f path) = combine mp l') :
    Equiv (mergeAll mp fs) (mergeAll mp fs') := by
  intro path
  rw [get_mergeAll hw, get_mergeAll fun f hf => hw f (hp.mem_iff.mpr hf)]
  exact hc path _ fun x => (hp.map _).mem_iff

end PymocaVerif.Merge
