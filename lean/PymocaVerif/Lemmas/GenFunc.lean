import PymocaVerif.Lemmas.GenIfStmt
import PymocaVerif.Lemmas.GenEq
/-!
# Lemmas for C11: whole functions — `get_function` computes what running the algorithm section computes;
  function tables; the residual function of a whole model
-/
namespace PymocaVerif.Gen
open PymocaVerif.ExprSem

/-- The statements covered by the function theorem. -/
inductive SafeStmt : Stmt K → Prop
  /-- `x := e` -/
  | assign (x : String) (e : MExpr K) (he : mClosed [] e = true) : SafeStmt (.assign x e)
  /-- An if-statement whose branches (rows of right-hand sides, the else branch last) all assign the
      variables `xs` once each in this order, and whose conditions do not read a variable assigned
      before the last one. -/
  | ifs (cs : List (MExpr K)) (xs : List String) (r : List (MExpr K)) (rest : List (List (MExpr K)))
      (hn : xs.Nodup) (hl : ∀ q ∈ r :: rest, q.length = xs.length) (hlen : (r :: rest).length = cs.length + 1)
      (hcc : cs.all (mClosed []) = true) (hrc : ∀ q ∈ r :: rest, q.all (mClosed []) = true)
      (hm : ∀ c ∈ cs, ∀ y ∈ xs.dropLast, mentions y c = false) :
      SafeStmt (.ifs cs ((r :: rest).map fun q => xs.zip q))
  /-- A for-statement over assignments (the loop index may be used as a number). -/
  | for (i : String) (start : Int) (stop : IdxE) (step : Int) (body : List (String × MExpr K))
      (hb : ∀ b ∈ body, mClosed [i] b.2 = true) : SafeStmt (.for i start stop step body)

def SafeFunc (f : MFunc K) : Prop :=
  (∀ s ∈ f.body, SafeStmt s) ∧ (∀ x ∈ f.locals, x ∉ f.inputs)

theorem store_get_mem {xs : List String} {vs : List (List K)} {y : String} {v : List K}
    (h : Store.get (xs.zip vs) y = some v) : y ∈ xs := by
  induction xs generalizing vs with
  | nil => exact nomatch h
  | cons x xs ih =>
    match vs, h with
    | w :: vs, h =>
      rw [List.zip_cons_cons, store_get_cons] at h
      split at h
      · rename_i hxy
        exact hxy ▸ List.mem_cons_self
      · exact List.mem_cons_of_mem _ (ih h)

theorem get_mem {σ : SymVals K} {x : String} {s : CTerm K} (h : SymVals.get σ x = some s) : (x, s) ∈ σ := by
  induction σ with
  | nil => exact nomatch h
  | cons p rest ih =>
    rw [get_cons] at h
    split at h
    · rename_i hyx
      cases h
      exact hyx ▸ List.mem_cons_self
    · exact List.mem_cons_of_mem _ (ih h)

theorem lookupAll_cons_ok {vals : SymVals K} {x : String} {xs : List String}
    {ps : List (String × CTerm K)} (h : lookupAll vals (x :: xs) = .ok ps) :
    ∃ t rest, SymVals.get vals x = some t ∧ lookupAll vals xs = .ok rest ∧ ps = (x, t) :: rest := by
  simp only [lookupAll] at h
  cases hg : SymVals.get vals x with
  | none =>
    rw [hg] at h
    cases h
  | some t =>
    rw [hg] at h
    obtain ⟨rest, hrest, hc⟩ := bind_ok.mp h
    cases hc
    exact ⟨t, rest, rfl, hrest, rfl⟩

theorem lookupAll_spec {vals : SymVals K} {xs : List String} {ps : List (String × CTerm K)}
    (h : lookupAll vals xs = .ok ps) :
    ps.map (·.1) = xs ∧ ∀ p ∈ ps, SymVals.get vals p.1 = some p.2 := by
  induction xs generalizing ps with
  | nil => cases h; exact ⟨rfl, nofun⟩
  | cons x xs ih =>
    obtain ⟨t, rest, hget, hrest, rfl⟩ := lookupAll_cons_ok h
    refine ⟨congrArg (x :: ·) (ih hrest).1, fun p hp => ?_⟩
    rcases List.mem_cons.mp hp with rfl | hp
    · exact hget
    · exact (ih hrest).2 p hp

theorem get_of_lookupAll {vals : SymVals K} {xs : List String} {ps : List (String × CTerm K)}
    (h : lookupAll vals xs = .ok ps) {y : String} {s : CTerm K} (hy : SymVals.get ps y = some s) : y ∈ xs := by
  rw [← (lookupAll_spec h).1]
  exact List.mem_map.mpr ⟨(y, s), get_mem hy, rfl⟩

/-- Reading variables off the final symbolic values and off the final store gives the same values, as
    soon as every single variable does. -/
theorem lookupAll_eval (P : Prims K) (ρ : Env K) {vals : SymVals K} {σ : Store K} (w : CTerm K → CTerm K)
    (h : ∀ x t v, SymVals.get vals x = some t → Store.get σ x = some v → evalC P ρ (w t) = some v)
    {xs : List String} {ps : List (String × CTerm K)} {ws : List (List K)}
    (hp : lookupAll vals xs = .ok ps) (hw : getAll σ xs = some ws) :
    evalCL P ρ (ps.map fun p => w p.2) = some ws := by
  induction xs generalizing ps ws with
  | nil => cases hp; cases hw; rfl
  | cons x xs ih =>
    obtain ⟨t, rest, hget, hrest, rfl⟩ := lookupAll_cons_ok hp
    obtain ⟨v, ws', hv, hws', rfl⟩ := bind2_eq_some.mp hw
    exact evalCL_cons_some.mpr ⟨v, ws', h x t v hget hv, ih hrest hws', rfl⟩

section
variable {P : Prims K} {o : Opts} {T : FTab K} {F : FSem K} (hT : TabOK P T F) (hS : NoShadow T)
include hT hS

theorem genStmt_safe {s : Stmt K} (hs : SafeStmt s) {as : List (String × CTerm K)}
    (h : genStmt P o T s = .ok as) : StmtSpec P F s as := by
  cases hs with
  | assign x e he => exact genStmt_assign hT hS he h
  | «for» i start stop step body hb => exact genStmt_for hT hS hb h
  | ifs cs xs r rest hn hl hlen hcc hrc hm =>
    obtain ⟨tcs, rowsT, htcs, hrowsT, rfl⟩ := genStmt_ifs_aligned hn hl hlen h
    refine ⟨ifAssigns_closed (genL_closed hcc htcs) fun rT hrT => ?_, runRaw_refines_execIf hT hS htcs hrowsT hl hm⟩
    obtain ⟨q, hq, hg⟩ := (genRows_length_mem hrowsT).2 rT hrT
    exact genL_closed (hrc q hq) hg

theorem genStmts_inv {ρin : Env K} (hsh : ρin.shape = fun _ => none) (hix : ρin.idx = fun _ => none)
    {body : List (Stmt K)} (hs : ∀ s ∈ body, SafeStmt s) {vals vals' : SymVals K} {σ σ' : Store K}
    (hg : genStmts P o T body vals = .ok vals') (he : execBody P F body σ = some σ')
    (hinv : Inv P ρin vals σ) : Inv P ρin vals' σ' := by
  induction body generalizing vals σ with
  | nil => cases hg; cases he; exact hinv
  | cons s ss ih =>
    obtain ⟨as, has, hg2⟩ := bind_ok.mp hg
    obtain ⟨σ1, he1, he⟩ := Option.bind_eq_some_iff.mp he
    have hspec := genStmt_safe hT hS (hs s List.mem_cons_self) has
    exact ih (fun s' hs' => hs s' (List.mem_cons_of_mem _ hs')) hg2 he
      (applyAssigns_inv hsh hix hspec.closed (hspec.sem σ σ1 he1) hinv)

theorem genFunc_refines {f : MFunc K} (hf : SafeFunc f) {fn : CFunc K} (h : genFunc P o T f = .ok fn)
    (vs : List (List K)) : Refines (evalCF P fn vs) (funcSem P F f vs) := by
  obtain ⟨vals, hvals, h2⟩ := bind_ok.mp h
  obtain ⟨outs, tmps, houts, htmps, rfl⟩ := bind2_ok.mp h2
  intro r hr
  unfold funcSem at hr
  split at hr
  · rename_i hlen
    obtain ⟨σ, hσ, hr⟩ := Option.bind_eq_some_iff.mp hr
    obtain ⟨ovs, hov, hr⟩ := Option.bind_eq_some_iff.mp hr
    cases hr
    let ρin : Env K := funcEnv f.inputs vs
    have hinv := genStmts_inv hT hS (ρin := ρin) rfl rfl hf.1 hvals hσ (Inv.init P f.inputs vs)
    have htc : ValsClosed tmps := fun x s hx =>
      hinv.closed x s ((lookupAll_spec htmps).2 (x, s) (get_mem hx))
    -- substituting the locals leaves the inputs alone, since no local is an input
    have hle : Env.le ρin (over P ρin tmps) := by
      refine ⟨fun x v hx => ?_, rfl, rfl⟩
      cases hg : SymVals.get tmps x with
      | none =>
        rw [over_val_none hg]
        exact hx
      | some s => exact absurd (store_get_mem hx) (hf.2 x (get_of_lookupAll htmps hg))
    have key := lookupAll_eval P ρin (subst tmps) (fun x t v hget hv => by
      rw [evalC_subst P tmps htc t ρin (fun _ _ _ => rfl)]
      refine evalC_mono P t hle v ?_
      rw [← hv, ← hinv.val x, over_val_some hget]) houts hov
    simp only [evalCF, hlen, if_true, evalCs_ofList, Option.bind_eq_bind]
    exact Option.bind_eq_some_iff.mpr ⟨ovs, key, rfl⟩
  · cases hr

end

theorem NoShadow.tail {P : Prims K} {o : Opts} {f : MFunc K} {rest : List (MFunc K)}
    (hS : NoShadow (genTable P o (f :: rest))) : NoShadow (genTable P o rest) := by
  have key : ∀ n, genTable P o (f :: rest) n = none → genTable P o rest n = none := by
    intro n h
    simp only [genTable] at h
    split at h
    · cases h
    · exact h
  exact ⟨fun e => key _ (hS.elem e), fun op => key _ (hS.bin op)⟩

/-- Functions are declared before use, so the translated table refines the table of meanings entry by
    entry, each function seeing the (already correct) table of the earlier ones. -/
theorem genTable_tabOK (P : Prims K) (o : Opts) : ∀ (fs : List (MFunc K)),
    (∀ f ∈ fs, SafeFunc f) → NoShadow (genTable P o fs) → TabOK P (genTable P o fs) (funcTable P fs) := by
  intro fs
  induction fs with
  | nil => exact fun _ _ => ⟨fun _ => rfl, fun _ _ h => nomatch h⟩
  | cons f rest ih =>
    intro hsafe hS
    replace ih := ih (fun g hg => hsafe g (List.mem_cons_of_mem _ hg)) hS.tail
    refine ⟨fun n => ?_, fun n fn h => ?_⟩
    · simp only [genTable, funcTable]
      split
      · rfl
      · exact ih.dom n
    · simp only [genTable] at h
      simp only [funcTable]
      split at h
      · rename_i hn
        rw [if_pos hn]
        exact ⟨_, rfl, genFunc_refines ih hS.tail (hsafe f List.mem_cons_self) (Option.some.inj h)⟩
      · rename_i hn
        rw [if_neg hn]
        exact ih.sem n fn h

theorem genResidual_refines {P : Prims K} {o : Opts} {m : MModel K} {initial : Bool} {fn : CFunction K}
    (ρ : Env K) (h : genResidual P o ρ.idx m initial = .ok fn)
    (hsafe : ∀ f ∈ m.funcs, SafeFunc f) (hS : NoShadow (genTable P o m.funcs)) :
    Refines (evalFn P ρ fn) (residualsOfModel P ρ m initial) := by
  obtain ⟨ts, hts, hc⟩ := bind_ok.mp h
  cases hc
  exact genMEqs_refines (genTable_tabOK P o m.funcs hsafe hS) hS ρ hts

end PymocaVerif.Gen
