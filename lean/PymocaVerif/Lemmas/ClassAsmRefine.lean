import PymocaVerif.Model.ClassAsm
/-!
# The listener machine computes the structural specification

Every `run_X` carries a continuation: running the events of `X` and then `tl` either fails as
`specX` fails or goes on with `tl` from the state `specX` describes.  The lemmas compose by `rw`
along the grammar, up to `runListener_eq_expected`.
-/
namespace PymocaVerif.ClassAsm

@[simp] theorem updLast_append_singleton {α} (g : α → α) (l : List α) (x : α) :
    updLast g (l ++ [x]) = l ++ [g x] := by
  induction l with
  | nil => rfl
  | cons a t ih =>
    cases t with
    | nil => rfl
    | cons b t' =>
      simp only [List.cons_append] at ih ⊢
      simp only [updLast]
      rw [ih]

theorem tick_of_node {k : Ctr} (h : k.node ≠ .none) : tick k = k := by
  unfold tick
  split
  · next hn => exact absurd hn h
  · rfl

theorem ticks_of_node (n : Nat) {k : Ctr} (h : k.node ≠ .none) : ticks n k = k := by
  induction n with
  | zero => rfl
  | succ n ih => simp only [ticks, tick_of_node h, ih]

theorem run_ticks (n : Nat) (st : List Frame) (cl : Option ClauseSt) (k : Ctr) (ie : Bool)
    (fc : List ClassAst) (tl : List Event) :
    run ⟨st, cl, k, ie, fc⟩ (List.replicate n .enterElemMod ++ tl) = run ⟨st, cl, ticks n k, ie, fc⟩ tl := by
  induction n generalizing k with
  | zero => rfl
  | succ n ih =>
    simp only [List.replicate_succ, List.cons_append, run, step, ticks]
    exact ih _

theorem specDecl_syms (cl : ClauseSt) (x : List Sym) (names : List String) (sec : Nat) (k : Ctr) (d : Decl) :
    specDecl { cl with syms := x } names sec k d = specDecl cl names sec k d := rfl

section
variable (rest : List Frame) (fc : List ClassAst) (tl : List Event)

theorem run_decl (d : Decl) (f : Frame) (cl : ClauseSt) (k : Ctr) :
    run ⟨f :: rest, some cl, k, false, fc⟩ (declEvents d ++ tl) =
      match specDecl cl ((f.info.symbols ++ cl.syms).map (·.name)) f.closed.length k d with
      | .error e => .error e
      | .ok (y, k') => run ⟨f :: rest, some { cl with syms := cl.syms ++ [y] }, k', false, fc⟩ tl := by
  unfold declEvents specDecl
  simp only [List.append_assoc, List.cons_append, List.nil_append, run, step, Bool.false_eq_true, if_false]
  by_cases hmem : d.name ∈ (f.info.symbols ++ cl.syms).map (·.name)
  · rw [if_pos hmem, if_pos hmem]
  · rw [if_neg hmem, if_neg hmem]
    simp only []
    rw [run_ticks, ticks_of_node _ (by simp)]
    simp only [run, step, updLast_append_singleton]
    rw [run_ticks, ticks_of_node _ (by simp)]
    simp only [run, step, updLast_append_singleton]

theorem run_decls (ds : List Decl) (f : Frame) (cl : ClauseSt) (acc : List Sym) (k : Ctr) :
    run ⟨f :: rest, some { cl with syms := acc }, k, false, fc⟩ (declsEvents ds ++ tl) =
      match specDecls cl (f.info.symbols.map (·.name)) f.closed.length ds acc k with
      | .error e => .error e
      | .ok (syms, k') => run ⟨f :: rest, some { cl with syms := syms }, k', false, fc⟩ tl := by
  induction ds generalizing acc k with
  | nil => rfl
  | cons d t ih =>
    simp only [declsEvents, List.append_assoc, run_decl, specDecls, List.map_append, specDecl_syms]
    cases specDecl cl (f.info.symbols.map (·.name) ++ acc.map (·.name)) f.closed.length k d with
    | error e => rfl
    | ok p => exact ih _ _

theorem run_clause (c : Clause) (f : Frame) (k : Ctr) :
    run ⟨f :: rest, none, k, false, fc⟩ (clauseEvents c ++ tl) =
      match specClause c f k with
      | .error e => .error e
      | .ok (f', k') => run ⟨f' :: rest, none, k', false, fc⟩ tl := by
  unfold clauseEvents specClause
  simp only [List.append_assoc, List.cons_append, List.nil_append, run, step]
  rw [run_decls rest fc _ c.decls f ⟨c.prefixes, k.nextId, k.nextId + 1, k.nextId + 2, []⟩ []]
  cases specDecls ⟨c.prefixes, k.nextId, k.nextId + 1, k.nextId + 2, []⟩ (f.info.symbols.map (·.name))
      f.closed.length c.decls [] { k with nextId := k.nextId + 3 } with
  | error e => rfl
  | ok p =>
    obtain ⟨syms, k'⟩ := p
    simp only [run, step]

theorem run_extEvs (evs : List ExtEv) (f : Frame) (k : Ctr) :
    run ⟨f :: rest, none, k, true, fc⟩ (extEvsEvents evs ++ tl) = run ⟨f :: rest, none, extEvsCtr evs k, true, fc⟩ tl := by
  induction evs generalizing k with
  | nil => rfl
  | cons e t ih =>
    cases e with
    | m =>
      simp only [extEvsEvents, extEvEvents, List.cons_append, List.nil_append, run, step,
        extEvsCtr, extEvCtr]
      exact ih _
    | d p ty n =>
      simp only [extEvsEvents, extEvEvents, List.cons_append, List.nil_append, run, step,
        extEvsCtr, extEvCtr, if_true]
      exact ih _

theorem run_ext (e : ExtSrc) (f : Frame) (k : Ctr) :
    run ⟨f :: rest, none, k, false, fc⟩ (extEvents e ++ tl) =
      run ⟨f.addExt e.path e.args :: rest, none, extEvsCtr e.evs k, false, fc⟩ tl := by
  unfold extEvents
  simp only [List.append_assoc, List.cons_append, List.nil_append, run, step]
  rw [run_extEvs]
  simp only [run, step]

theorem run_short (sh : ShortSrc) (f : Frame) (k : Ctr) :
    run ⟨f :: rest, none, k, false, fc⟩ (shortEvents sh ++ tl) =
      run ⟨f.attach (specShort sh) :: rest, none, ticks sh.ticks k, false, fc⟩ tl := by
  unfold shortEvents
  simp only [List.append_assoc, List.cons_append, List.nil_append, run, step]
  rw [run_ticks]
  simp only [run, step]
  rfl

end

mutual
theorem run_class (c : ClassSrc) (p : Frame) (rest : List Frame) (k : Ctr) (fc : List ClassAst) (tl : List Event) :
    run ⟨p :: rest, none, k, false, fc⟩ (classEvents c ++ tl) =
      match specClass c k with
      | .error e => .error e
      | .ok (a, k') => run ⟨p.attach a :: rest, none, k', false, fc⟩ tl := by
  match c with
  | .mk h first ss =>
    simp only [classEvents, specClass, List.append_assoc, List.cons_append, List.nil_append, run, step]
    rw [run_elems first]
    cases specElems first (Frame.new h.kind h.partial_ h.encapsulated) k with
    | error e => rfl
    | ok r =>
      obtain ⟨f, k1⟩ := r
      simp only [run, step]
      rw [run_sections ss]
      cases specSections ss { f with closed := f.closed ++ [none] } k1 with
      | error e => rfl
      | ok r2 =>
        obtain ⟨f2, k2⟩ := r2
        simp only []
        rw [run_ticks]
        simp only [run, step]
        rfl
theorem run_elems (es : Elems) (f : Frame) (rest : List Frame) (k : Ctr) (fc : List ClassAst) (tl : List Event) :
    run ⟨f :: rest, none, k, false, fc⟩ (elemsEvents es ++ tl) =
      match specElems es f k with
      | .error e => .error e
      | .ok (f', k') => run ⟨f' :: rest, none, k', false, fc⟩ tl := by
  match es with
  | .nil => rfl
  | .comp c t =>
    simp only [elemsEvents, specElems, List.append_assoc]
    rw [run_clause]
    cases specClause c f k with
    | error e => rfl
    | ok r => exact run_elems t r.1 rest r.2 fc tl
  | .ext e t =>
    simp only [elemsEvents, specElems, List.append_assoc]
    rw [run_ext]
    exact run_elems t _ rest _ fc tl
  | .imp i t =>
    simp only [elemsEvents, specElems, List.cons_append, List.nil_append, run, step]
    cases addImport f.info.imports i with
    | error e => rfl
    | ok imps => exact run_elems t _ rest _ fc tl
  | .cls c t =>
    simp only [elemsEvents, specElems, List.append_assoc]
    rw [run_class c]
    cases specClass c k with
    | error e => rfl
    | ok r => exact run_elems t _ rest r.2 fc tl
  | .short sh t =>
    simp only [elemsEvents, specElems, List.append_assoc]
    rw [run_short]
    exact run_elems t _ rest _ fc tl
theorem run_sections (ss : Sections) (f : Frame) (rest : List Frame) (k : Ctr) (fc : List ClassAst) (tl : List Event) :
    run ⟨f :: rest, none, k, false, fc⟩ (sectionsEvents ss ++ tl) =
      match specSections ss f k with
      | .error e => .error e
      | .ok (f', k') => run ⟨f' :: rest, none, k', false, fc⟩ tl := by
  match ss with
  | .nil => rfl
  | .elems vis es t =>
    simp only [sectionsEvents, specSections, List.append_assoc, List.cons_append, List.nil_append]
    rw [run_elems es]
    cases specElems es f k with
    | error e => rfl
    | ok r =>
      simp only [run, step]
      exact run_sections t _ rest r.2 fc tl
  | .eqs ini items t =>
    simp only [sectionsEvents, specSections, List.cons_append, List.nil_append, run, step,
      updLast_append_singleton, List.nil_append]
    exact run_sections t _ rest k fc tl
  | .algs ini items t =>
    simp only [sectionsEvents, specSections, List.cons_append, List.nil_append, run, step,
      updLast_append_singleton, List.nil_append]
    exact run_sections t _ rest k fc tl
end

theorem run_file (file : List (Bool × ClassSrc)) (root : Frame) (k : Ctr) (fc : List ClassAst) :
    (match run ⟨[root], none, k, false, fc⟩ (fileEvents file) with
      | .ok s => Except.ok s.fileClasses
      | .error e => .error e) = specFile file fc k := by
  induction file generalizing root k fc with
  | nil => rfl
  | cons x t ih =>
    obtain ⟨fin, c⟩ := x
    simp only [fileEvents, specFile, List.append_assoc]
    rw [run_class c]
    cases specClass c k with
    | error e => rfl
    | ok r =>
      obtain ⟨a, k1⟩ := r
      simp only [List.cons_append, List.nil_append, run, step, Frame.attach]
      exact ih _ _ _

theorem runListener_eq_expected (file : List (Bool × ClassSrc)) : runListener file = expected file := by
  unfold runListener expected LState.init
  exact run_file file _ _ _

end PymocaVerif.ClassAsm
