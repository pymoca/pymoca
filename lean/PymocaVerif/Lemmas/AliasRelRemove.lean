import PymocaVerif.Lemmas.AliasRelWF
/-! `remove` under the full invariant (C17). -/
namespace PymocaVerif.AliasRel

/-- the two sets `remove(a)` unites: `_aliases[a] | _aliases[-a]` -/
abbrev RR (s : AR) (a : SName) : List SName := s.aliases a ++ s.aliases (tog a)

/-- the state `remove(a)` produces when `a` is a canonical variable -/
def AR.removeRes (s : AR) (a : SName) : AR :=
  { al := fun k => if k ∈ RR s a then none else s.al k,
    cmap := fun k => if k ∈ RR s a then none else s.cmap k,
    cv := s.cv.filter (· != a.2) }

theorem remove_noop {s : AR} {a : SName} (hn : ¬ (a.1 = false ∧ a.2 ∈ s.cv)) : s.remove a = some s :=
  if_pos ((Decidable.not_and_iff_not_or_not.1 hn).imp_left Bool.of_not_eq_false)

/-- Under the invariant the two `del` loops of `remove` find every key: the class of a canonical
    variable and that of its negation are stored, and so are the map entries of their members. -/
theorem remove_eff {s : AR} (w : WFR s) {a : SName} (h1 : a.1 = false) (h2 : a.2 ∈ s.cv) :
    s.remove a = some (s.removeRes a) := by
  obtain ⟨_, c⟩ := a
  cases h1
  have h := w.cls
  have hst := w.stored_of_cv h2
  have hall : (RR s (false, c)).all (fun b => (s.al b).isSome && (s.cmap b).isSome) = true := by
    rw [List.all_eq_true]
    intro b hb
    have hb' : s.al b ≠ none :=
      (List.mem_append.1 hb).elim (stored_of_mem h · hst) (stored_of_mem h · (stored_tog h hst))
    rw [Bool.and_eq_true, Option.isSome_iff_ne_none, Option.isSome_iff_ne_none]
    exact ⟨hb', fun hn => hb' ((w.dom b).1 hn)⟩
  have hcond : ¬ ((false, c).1 = true ∨ (false, c).2 ∉ s.cv) := fun hc => hc.elim nofun (· h2)
  simp only [AR.remove, if_neg hcond, al_eq_some_aliases hst, al_eq_some_aliases (stored_tog h hst)]
  exact if_pos hall

theorem RR_tog {s : AR} (h : ARInv s) (a x : SName) : tog x ∈ RR s a ↔ x ∈ RR s a := by
  simp only [List.mem_append, aliases_tog h, tog_tog]
  exact Or.comm

theorem removeRes_in {s : AR} {a x : SName} (hx : x ∈ RR s a) :
    (s.removeRes a).al x = none ∧ (s.removeRes a).cmap x = none :=
  ⟨if_pos hx, if_pos hx⟩

theorem removeRes_out {s : AR} {a x : SName} (hx : x ∉ RR s a) :
    (s.removeRes a).al x = s.al x ∧ (s.removeRes a).cmap x = s.cmap x :=
  ⟨if_neg hx, if_neg hx⟩

theorem aliases_removeRes (s : AR) (a x : SName) :
    (s.removeRes a).aliases x = if x ∈ RR s a then [x] else s.aliases x := by
  split
  · next hx => exact aliases_of_none (removeRes_in hx).1
  · next hx => exact aliases_congr (removeRes_out hx).1

theorem canonicalSigned_removeRes (s : AR) (a x : SName) :
    (s.removeRes a).canonicalSigned x = if x ∈ RR s a then (x.2, x.1) else s.canonicalSigned x := by
  split
  · next hx => exact canonicalSigned_of_none (removeRes_in hx).2
  · next hx => exact canonicalSigned_congr (removeRes_out hx).2

theorem mem_cv_removeRes (s : AR) (a : SName) (c : String) :
    c ∈ (s.removeRes a).cv ↔ c ∈ s.cv ∧ c ≠ a.2 := by
  simp only [AR.removeRes, List.mem_filter, bne_iff_ne, ne_eq]

theorem RR_outside {s : AR} (h : ARInv s) {a x y : SName} (hx : x ∉ RR s a) (hy : y ∈ s.aliases x) :
    y ∉ RR s a :=
  fun m => hx (union_closed h m (aliases_symm s h hy))

theorem removeRes_inv {s : AR} (h : ARInv s) (a : SName) : ARInv (s.removeRes a) := by
  refine ARInv.of_pointwise fun x S hS => ?_
  by_cases hx : x ∈ RR s a
  · rw [(removeRes_in hx).1] at hS; cases hS
  · rw [(removeRes_out hx).1] at hS
    refine ⟨h.self_mem x S hS, fun y hy => ?_, ?_, h.noself x S hS⟩
    · rw [(removeRes_out (RR_outside h hx (aliases_of_some hS ▸ hy))).1]; exact h.shared x S y hS hy
    · rw [(removeRes_out (mt (RR_tog h a x).1 hx)).1]; exact h.neg x S hS

theorem removeRes_wfr {s : AR} (w : WFR s) {a : SName} (h1 : a.1 = false) (h2 : a.2 ∈ s.cv) :
    WFR (s.removeRes a) := by
  obtain ⟨_, d⟩ := a
  cases h1
  have h := w.cls
  refine WFR.of_pointwise (removeRes_inv h _) (fun x => ?_) (fun c => ?_)
    (List.Pairwise.filter _ w.cv_nodup)
  · by_cases hx : x ∈ RR s (false, d)
    · have e := removeRes_in hx
      rw [e.1, e.2, aliases_of_none e.1, canonicalSigned_of_none e.2,
        canonicalSigned_of_none (removeRes_in ((RR_tog h _ x).2 hx)).2]
      exact ⟨⟨fun _ => rfl, fun _ => rfl⟩, nofun, List.mem_singleton.2 rfl,
        fun y hy => by rw [List.mem_singleton.1 hy]; exact canonicalSigned_of_none e.2,
        (flipIf_true (x.2, x.1)).symm⟩
    · have e := removeRes_out hx
      rw [e.1, e.2, aliases_congr e.1, canonicalSigned_congr e.2,
        canonicalSigned_congr (removeRes_out (mt (RR_tog h _ x).1 hx)).2]
      refine ⟨w.dom x, w.nontriv x, w.rep_mem x, fun y hy => ?_, w.can_neg x⟩
      rw [canonicalSigned_congr (removeRes_out (RR_outside h hx hy)).2]; exact w.can_eq x y hy
  · -- the canonical variables whose class goes are those with `a`'s canonical name, i.e. `a.2` alone
    rw [mem_cv_removeRes]
    by_cases hx : (false, c) ∈ RR s (false, d)
    · rw [(removeRes_in hx).2]
      refine ⟨fun ⟨hc, hcd⟩ => ?_, nofun⟩
      have := (same_canonical_iff w (false, d) (false, c)).2 (List.mem_append.1 hx)
      rw [w.can_of_cv h2 false, w.can_of_cv hc false] at this
      exact absurd this.symm hcd
    · rw [(removeRes_out hx).2, ← w.cv_iff c]
      refine ⟨And.left, fun hc => ⟨hc, ?_⟩⟩
      rintro rfl
      exact hx (List.mem_append_left _ (mem_aliases_self h _))

theorem WFR.remove {s : AR} (w : WFR s) (a : SName) : ∃ s', s.remove a = some s' ∧ WFR s' := by
  by_cases hc : a.1 = false ∧ a.2 ∈ s.cv
  · exact ⟨_, remove_eff w hc.1 hc.2, removeRes_wfr w hc.1 hc.2⟩
  · exact ⟨s, remove_noop hc, w⟩

end PymocaVerif.AliasRel
