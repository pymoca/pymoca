import PymocaVerif.Model.AliasMerge
import Mathlib.Algebra.Order.Ring.Rat
import Mathlib.Algebra.Field.Rat
/-!
Lemmas for C16.  First the notions its theorems are stated with (`NegAnti`, `inBox`, `compose`); then `ExtRat`
(what the driver computes with) is a linear order with an order-reversing involutive negation; then the fold
`merge`, first what holds whatever the numbers are (`merge_iff`, `merge_late_iff`, the start), then what needs
the order.
-/
namespace PymocaVerif

namespace AliasMerge

/-- negation reverses the order -/
def NegAnti (α : Type) [LE α] [Neg α] : Prop := ∀ a b : α, a ≤ b → -b ≤ -a

/-- `x` satisfies the bounds of `a` -/
def inBox {α : Type} [LE α] (a : Attrs α) (x : α) : Prop := a.min ≤ x ∧ x ≤ a.max

instance {α : Type} [LE α] [DecidableLE α] (a : Attrs α) (x : α) : Decidable (inBox a x) :=
  inferInstanceAs (Decidable (a.min ≤ x ∧ x ≤ a.max))

/-- the entry of an alias-of-an-alias seen from the outer canonical: signs multiply -/
def compose {α : Type} (s : Bool) (m : Entry α) : Entry α := { m with neg := xor s m.neg }

end AliasMerge

namespace ExtRat

theorem le_def (a b : ExtRat) : a ≤ b ↔ leb a b = true := Iff.rfl

theorem leb_refl (a : ExtRat) : leb a a = true := by
  cases a <;> simp [leb]

theorem leb_trans {a b c : ExtRat} (h₁ : leb a b = true) (h₂ : leb b c = true) : leb a c = true := by
  cases a <;> cases b <;> cases c <;> simp_all [leb]
  exact Rat.le_trans h₁ h₂

theorem leb_antisymm {a b : ExtRat} (h₁ : leb a b = true) (h₂ : leb b a = true) : a = b := by
  cases a <;> cases b <;> simp_all [leb]
  exact Rat.le_antisymm h₁ h₂

theorem leb_total (a b : ExtRat) : leb a b = true ∨ leb b a = true := by
  cases a <;> cases b <;> simp [leb]
  exact Rat.le_total

instance : LinearOrder ExtRat where
  le := (· ≤ ·)
  lt := (· < ·)
  le_refl := leb_refl
  le_trans := fun _ _ _ => leb_trans
  lt_iff_le_not_ge := fun _ _ => Iff.rfl
  le_antisymm := fun _ _ => leb_antisymm
  le_total := leb_total
  toDecidableLE := inferInstance
  toDecidableLT := inferInstance
  toDecidableEq := inferInstance
  max := Max.max
  min := Min.min
  max_def := fun _ _ => rfl
  min_def := fun _ _ => rfl

instance : InvolutiveNeg ExtRat where
  neg := Neg.neg
  neg_neg := by
    intro a
    cases a with
    | ninf => rfl
    | pinf => rfl
    | fin q =>
      show fin (- -q) = fin q
      rw [Rat.neg_neg]

theorem neg_anti (a b : ExtRat) (h : a ≤ b) : -b ≤ -a := by
  cases a <;> cases b <;> simp_all [le_def, leb, Neg.neg, neg]
  exact Rat.neg_le_neg h

end ExtRat

namespace AliasMerge

theorem negAnti_extRat : NegAnti ExtRat := ExtRat.neg_anti

theorem negAnti_field {K : Type} [Field K] [LinearOrder K] [IsStrictOrderedRing K] : NegAnti K :=
  fun _ _ h => neg_le_neg h

theorem bool_eq_of_false_iff {a b : Bool} (h : a = false ↔ b = false) : a = b := by
  cases a <;> cases b <;> simp_all

section
variable {α : Type} [Neg α]

theorem adopt_of_skipped {e : Entry α} (h : e.skipped = true) : adopt e = none :=
  if_pos h

theorem adopt_of_not_skipped {e : Entry α} (h : e.skipped = false) :
    adopt e = e.attrs.start.map (sgn e.neg) :=
  if_neg (Bool.eq_false_iff.1 h)

theorem adopt_eq_some_iff (e : Entry α) (w : α) :
    adopt e = some w ↔ e.skipped = false ∧ ∃ v, e.attrs.start = some v ∧ sgn e.neg v = w := by
  cases hs : e.skipped
  · rw [adopt_of_not_skipped hs, Option.map_eq_some_iff]
    exact ⟨fun h => ⟨rfl, h⟩, fun h => h.2⟩
  · rw [adopt_of_skipped hs]
    exact ⟨nofun, fun h => nomatch h.1⟩

theorem adopt_eq_none_iff (e : Entry α) : adopt e = none ↔ (e.skipped = false → e.attrs.start = none) := by
  cases hs : e.skipped
  · rw [adopt_of_not_skipped hs, Option.map_eq_none_iff]
    exact ⟨fun h _ => h, fun h => h rfl⟩
  · rw [adopt_of_skipped hs]
    exact ⟨fun _ => nofun, fun _ => rfl⟩

variable [Max α] [Min α]

theorem merge_cons (c : Attrs α) (e : Entry α) (es : List (Entry α)) :
    merge c (e :: es) = merge (step c e) es := rfl

theorem step_of_skipped {c : Attrs α} {e : Entry α} (h : e.skipped = true) : step c e = c :=
  if_pos h

theorem step_of_not_skipped {c : Attrs α} {e : Entry α} (h : e.skipped = false) :
    step c e = absorb c e.neg e.attrs :=
  if_neg (Bool.eq_false_iff.1 h)

/-- An attribute `Φ` that each absorbed entry `e` restricts by a condition `Ψ e` of its own is, after the
    loop, restricted by all entries that were not skipped. -/
theorem merge_iff (Φ : Attrs α → Prop) (Ψ : Entry α → Prop)
    (H : ∀ c e, Φ (absorb c e.neg e.attrs) ↔ Φ c ∧ Ψ e) (c : Attrs α) (es : List (Entry α)) :
    Φ (merge c es) ↔ Φ c ∧ ∀ e ∈ es, e.skipped = false → Ψ e := by
  induction es generalizing c with
  | nil => exact (and_iff_left fun _ h => nomatch h).symm
  | cons e es ih =>
    rw [merge_cons, ih, List.forall_mem_cons]
    cases hs : e.skipped
    · rw [step_of_not_skipped hs, H, and_assoc]
      simp only [forall_const]
    · rw [step_of_skipped hs]
      simp only [Bool.true_eq_false, false_imp_iff, true_and]

theorem step_start (c : Attrs α) (e : Entry α) : (step c e).start = c.start.or (adopt e) := by
  cases hs : e.skipped
  · rw [step_of_not_skipped hs, adopt_of_not_skipped hs]
    show (match c.start with | some v => some v | none => _) = _
    cases c.start <;> rfl
  · rw [step_of_skipped hs, adopt_of_skipped hs, Option.or_none]

theorem merge_start_eq (c : Attrs α) (es : List (Entry α)) :
    (merge c es).start = (match c.start with
      | some v => some v
      | none => es.findSome? adopt) := by
  induction es generalizing c with
  | nil =>
    show c.start = _
    cases c.start <;> rfl
  | cons e es ih =>
    rw [merge_cons, ih, step_start, List.findSome?_cons]
    cases c.start <;> cases adopt e <;> rfl

theorem merge_start_mem_choices (c : Attrs α) {es es' : List (Entry α)} (hm : ∀ e, e ∈ es' ↔ e ∈ es) :
    (merge c es').start ∈ startChoices c es := by
  rw [merge_start_eq, startChoices]
  cases c.start with
  | some v => exact List.mem_singleton.2 rfl
  | none =>
    show es'.findSome? adopt ∈ if (es.filterMap adopt).isEmpty then [none] else (es.filterMap adopt).map some
    cases hf : es'.findSome? adopt with
    | none =>
      have : es.filterMap adopt = [] :=
        List.filterMap_eq_nil_iff.2 fun e he => List.findSome?_eq_none_iff.1 hf e ((hm e).2 he)
      rw [this]
      exact List.mem_singleton.2 rfl
    | some w =>
      obtain ⟨e, he, hw⟩ := List.exists_of_findSome?_eq_some hf
      have hmem : w ∈ es.filterMap adopt := List.mem_filterMap.2 ⟨e, (hm e).1 he, hw⟩
      rw [if_neg fun h => by rw [List.isEmpty_iff.1 h] at hmem; cases hmem]
      exact List.mem_map_of_mem hmem

/-- A later pass meets the former canonical `g` of an earlier class carrying `merge g ms` (sign `s`, found
    by the lookup, so not skipped).  For an attribute characterised entry by entry (`hΦ`), that entry
    says what `g` and the members of `ms`, signs multiplied, say (`hl`); so the merge is the flat one. -/
theorem merge_late_iff (Φ : Attrs α → Prop) (Ψ : Entry α → Prop)
    (hΦ : ∀ c es, Φ (merge c es) ↔ Φ c ∧ ∀ e ∈ es, e.skipped = false → Ψ e)
    {c g : Attrs α} {s : Bool} {ms es₁ es₂ : List (Entry α)}
    (hl : Ψ ⟨s, true, true, merge g ms⟩ ↔ Ψ (fresh s g) ∧ ∀ m ∈ ms, m.skipped = false → Ψ (compose s m)) :
    Φ (merge c (es₁ ++ ⟨s, true, true, merge g ms⟩ :: es₂)) ↔
      Φ (merge c (es₁ ++ fresh s g :: (ms.map (compose s) ++ es₂))) := by
  have h1 : (⟨s, true, true, merge g ms⟩ : Entry α).skipped = false := rfl
  have h2 : (fresh s g).skipped = false := rfl
  have h3 : ∀ m : Entry α, (compose s m).skipped = m.skipped := fun _ => rfl
  rw [hΦ, hΦ]
  simp only [List.forall_mem_append, List.forall_mem_cons, List.forall_mem_map, h1, h2, h3, forall_const, hl,
    and_assoc]

end

section
variable {α : Type} [InvolutiveNeg α]

theorem neg_le_swap [LE α] (h : NegAnti α) (a b : α) : -a ≤ b ↔ -b ≤ a :=
  ⟨fun hab => neg_neg a ▸ h _ _ hab, fun hba => neg_neg b ▸ h _ _ hba⟩

theorem le_neg_swap [LE α] (h : NegAnti α) (a b : α) : a ≤ -b ↔ b ≤ -a :=
  ⟨fun hab => neg_neg b ▸ h _ _ hab, fun hba => neg_neg a ▸ h _ _ hba⟩

theorem sgn_sgn (s t : Bool) (x : α) : sgn t (sgn s x) = sgn (xor s t) x := by
  cases s <;> cases t <;> simp [sgn]

end

section
variable {α : Type} [LinearOrder α] [InvolutiveNeg α]

theorem lo_hi_iff (h : NegAnti α) (s : Bool) (a : Attrs α) (x : α) :
    (lo s a ≤ x ∧ x ≤ hi s a) ↔ inBox a (sgn s x) := by
  cases s
  · exact Iff.rfl
  · show -a.max ≤ x ∧ x ≤ -a.min ↔ a.min ≤ -x ∧ -x ≤ a.max
    rw [neg_le_swap h, le_neg_swap h]
    exact and_comm

theorem merge_append (c : Attrs α) (es fs : List (Entry α)) :
    merge c (es ++ fs) = merge (merge c es) fs :=
  List.foldl_append

theorem merge_min_le_iff (c : Attrs α) (es : List (Entry α)) (x : α) :
    (merge c es).min ≤ x ↔ c.min ≤ x ∧ ∀ e ∈ es, e.skipped = false → lo e.neg e.attrs ≤ x :=
  merge_iff (·.min ≤ x) (fun e => lo e.neg e.attrs ≤ x) (fun _ _ => max_le_iff) c es

theorem le_merge_max_iff (c : Attrs α) (es : List (Entry α)) (x : α) :
    x ≤ (merge c es).max ↔ x ≤ c.max ∧ ∀ e ∈ es, e.skipped = false → x ≤ hi e.neg e.attrs :=
  merge_iff (x ≤ ·.max) (fun e => x ≤ hi e.neg e.attrs) (fun _ _ => le_min_iff) c es

theorem merge_nominal_le_iff (c : Attrs α) (es : List (Entry α)) (x : α) :
    (merge c es).nominal ≤ x ↔ c.nominal ≤ x ∧ ∀ e ∈ es, e.skipped = false → e.attrs.nominal ≤ x :=
  merge_iff (·.nominal ≤ x) (·.attrs.nominal ≤ x) (fun _ _ => max_le_iff) c es

/-- `fixed` is the disjunction: it stays `false` iff nothing merged is fixed -/
theorem merge_fixed_false_iff (c : Attrs α) (es : List (Entry α)) :
    (merge c es).fixed = false ↔ c.fixed = false ∧ ∀ e ∈ es, e.skipped = false → e.attrs.fixed = false :=
  merge_iff (·.fixed = false) (·.attrs.fixed = false) (fun _ _ => Bool.or_eq_false_iff) c es

theorem merge_nominal_mem (c : Attrs α) (es : List (Entry α)) :
    (merge c es).nominal = c.nominal ∨
      ∃ e ∈ es, e.skipped = false ∧ (merge c es).nominal = e.attrs.nominal := by
  have hub := (merge_nominal_le_iff c es _).1 le_rfl
  have hlt := merge_iff (·.nominal < (merge c es).nominal) (·.attrs.nominal < (merge c es).nominal)
    (fun _ _ => max_lt_iff) c es
  -- were it none of them it would lie strictly above all of them, hence (`hlt`) above itself
  by_contra hn
  rw [not_or] at hn
  exact lt_irrefl _ (hlt.2 ⟨lt_of_le_of_ne hub.1 (Ne.symm hn.1), fun e he hs =>
    lt_of_le_of_ne (hub.2 e he hs) fun h => hn.2 ⟨e, he, hs, h.symm⟩⟩)

theorem inBox_absorb_iff (h : NegAnti α) (c a : Attrs α) (s : Bool) (x : α) :
    inBox (absorb c s a) x ↔ inBox c x ∧ inBox a (sgn s x) := by
  show max c.min (lo s a) ≤ x ∧ x ≤ min c.max (hi s a) ↔ (c.min ≤ x ∧ x ≤ c.max) ∧ _
  rw [max_le_iff, le_min_iff, ← lo_hi_iff h]
  exact and_and_and_comm

theorem inBox_merge_iff (h : NegAnti α) (c : Attrs α) (es : List (Entry α)) (x : α) :
    inBox (merge c es) x ↔
      inBox c x ∧ ∀ e ∈ es, e.skipped = false → inBox e.attrs (sgn e.neg x) :=
  merge_iff (inBox · x) (fun e => inBox e.attrs (sgn e.neg x))
    (fun c e => inBox_absorb_iff h c e.attrs e.neg x) c es

theorem merge_congr_mem (c : Attrs α) {es es' : List (Entry α)} (hm : ∀ e, e ∈ es ↔ e ∈ es') :
    (merge c es).min = (merge c es').min ∧ (merge c es).max = (merge c es').max ∧
    (merge c es).nominal = (merge c es').nominal ∧ (merge c es).fixed = (merge c es').fixed :=
  ⟨eq_of_forall_ge_iff fun x => by simp only [merge_min_le_iff, hm],
   eq_of_forall_le_iff fun x => by simp only [le_merge_max_iff, hm],
   eq_of_forall_ge_iff fun x => by simp only [merge_nominal_le_iff, hm],
   bool_eq_of_false_iff (by simp only [merge_fixed_false_iff, hm])⟩

end
end AliasMerge
end PymocaVerif
